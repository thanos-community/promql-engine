/-
The series loader (`execution/storage/series_selector.go` `loadSeries`) under positional storage
faults: open the querier, `defer querier.Close()`, select, iterate the series set, return the
set's error. The model returns the outcome and the log of storage calls.
-/
namespace PromqlVerif.Loader

inductive Ev | opened | closed | select | next | setErr
deriving DecidableEq, Repr

/-- positional faults of one select -/
structure Faults where
  querierFails : Bool := false
  selectPanics : Bool := false
  /-- the series set reports an error after yielding this many series -/
  setErrAfter : Option Nat := none
  /-- a panic while iterating at this series -/
  panicAtSeries : Option Nat := none
deriving Repr, DecidableEq

inductive Outcome where
  | ok (loaded : Nat)
  | err
  | panic
deriving Repr, DecidableEq

/-- the storage calls of the body: one select, `n` calls of `Next`, possibly the final `Err` -/
def mkLog (n : Nat) (withErr : Bool) : List Ev :=
  .select :: (List.replicate n .next ++ (if withErr then [.setErr] else []))

/-- body between `defer querier.Close()` and the return: outcome, number of `Next` calls,
whether `seriesSet.Err()` was reached -/
def bodyCore (avail : Nat) (f : Faults) : Outcome × Nat × Bool :=
  if f.selectPanics then (.panic, 0, false)
  else
    let yielded := match f.setErrAfter with
      | some k => min k avail
      | none => avail
    let setFails := match f.setErrAfter with
      | some k => decide (k ≤ avail)
      | none => false
    let fin : Outcome × Nat × Bool := (if setFails then .err else .ok yielded, yielded + 1, true)
    match f.panicAtSeries with
    | some p => if p < yielded then (.panic, p + 1, false) else fin
    | none => fin

def body (avail : Nat) (f : Faults) : Outcome × List Ev :=
  let b := bodyCore avail f
  (b.1, mkLog b.2.1 b.2.2)

/-- `loadSeries`: the deferred close runs on every path once the querier is open -/
def loadSeries (avail : Nat) (f : Faults) : Outcome × List Ev :=
  if f.querierFails then (.err, [])
  else
    let b := body avail f
    (b.1, [.opened] ++ b.2 ++ [.closed])

def count (e : Ev) (l : List Ev) : Nat := (l.filter (· == e)).length

theorem count_eq (e : Ev) (l : List Ev) : count e l = l.count e := List.count_eq_length_filter.symm

theorem loadSeries_failed (avail : Nat) {f : Faults} (h : f.querierFails = true) :
    loadSeries avail f = (.err, []) := if_pos h

theorem loadSeries_opened (avail : Nat) {f : Faults} (h : f.querierFails = false) :
    loadSeries avail f = ((body avail f).1, (.opened :: (body avail f).2) ++ [.closed]) :=
  if_neg (ne_true_of_eq_false h)

theorem body_events (avail : Nat) (f : Faults) : .opened ∉ (body avail f).2 ∧ .closed ∉ (body avail f).2 := by
  simp only [body, mkLog]
  cases (bodyCore avail f).2.2 <;> simp

theorem counts_opened (avail : Nat) {f : Faults} (h : f.querierFails = false) :
    count .opened (loadSeries avail f).2 = 1 ∧ count .closed (loadSeries avail f).2 = 1 := by
  have ⟨ho, hc⟩ := body_events avail f
  rw [loadSeries_opened avail h]
  simp [count_eq, List.count_append, List.count_eq_zero.mpr ho, List.count_eq_zero.mpr hc]

/-- **every querier that is opened is closed exactly once, on every path** - success, storage
error, panic while selecting or iterating -/
theorem opens_eq_closes (avail : Nat) (f : Faults) :
    count .opened (loadSeries avail f).2 = count .closed (loadSeries avail f).2 ∧
      count .closed (loadSeries avail f).2 ≤ 1 := by
  cases h : f.querierFails
  · rw [(counts_opened avail h).1, (counts_opened avail h).2]
    exact ⟨rfl, Nat.le_refl 1⟩
  · rw [loadSeries_failed avail h]
    exact ⟨rfl, Nat.zero_le 1⟩

theorem close_is_last (avail : Nat) (f : Faults) (h : f.querierFails = false) :
    (loadSeries avail f).2.getLast? = some .closed := by
  rw [loadSeries_opened avail h]
  exact List.getLast?_concat

theorem bodyCore_ok {avail n : Nat} {f : Faults} (h : (bodyCore avail f).1 = .ok n) : n = avail := by
  unfold bodyCore at h
  split at h
  · cases h
  · extract_lets yielded setFails fin at h
    -- with or without a panic position, `ok` can only be the outcome at the end of the body
    have hfin : (if setFails then Outcome.err else .ok yielded) = .ok n := by
      split at h
      · split at h
        · cases h
        · exact h
      · exact h
    -- where it says that the set reported no error up to `avail`, so all of them were yielded
    split at hfin
    · cases hfin
    · next hno =>
      rw [← Outcome.ok.inj hfin]
      cases hs : f.setErrAfter with
      | none => simp only [yielded, hs]
      | some k =>
        have : ¬ k ≤ avail := by simpa [setFails, hs] using hno
        simp only [yielded, hs]
        omega

/-- **no partial success**: a successful load saw the complete series set -/
theorem ok_is_complete (avail n : Nat) (f : Faults) (h : (loadSeries avail f).1 = .ok n) : n = avail := by
  cases hq : f.querierFails
  · rw [loadSeries_opened avail hq] at h
    exact bodyCore_ok h
  · rw [loadSeries_failed avail hq] at h
    cases h

/-- a storage failure that is consulted makes the load fail -/
theorem set_error_fails (avail k : Nat) (hk : k ≤ avail) :
    (loadSeries avail { setErrAfter := some k }).1 = .err := by
  simp [loadSeries, body, bodyCore, hk]

theorem querier_error_fails (avail : Nat) : (loadSeries avail { querierFails := true }) = (.err, []) :=
  loadSeries_failed avail rfl

/-- non-vacuity: concrete runs -/
example : loadSeries 3 {} = (.ok 3, [.opened, .select, .next, .next, .next, .next, .setErr, .closed]) := by decide
example : (loadSeries 3 { panicAtSeries := some 1 }) = (.panic, [.opened, .select, .next, .next, .closed]) := by decide

end PromqlVerif.Loader
