/-
C10 - distributed execution equals central execution over the union of the partitions
(partial: the algebra of the reference semantics over a disjoint union that the push-down
relies on, and on top of it the value of the plan that `Dist.optDistribute`, the model of the
optimizer, produces; the real optimizer is compared with that model by the `distplan` oracle and
with central execution by the `dist` oracle).
-/
import PromqlVerif.Sem
import PromqlVerif.Gen.Facts
import PromqlVerif.Proofs.Pushdown
import PromqlVerif.Proofs.DistAgg
import PromqlVerif.Proofs.TopkPush
import PromqlVerif.Proofs.DistSound
import PromqlVerif.Proofs.RemoteProof
namespace PromqlVerif.C10
open PromqlVerif Val

variable {V : Type} [Val V]

/-- selection over the union of two partitions is the union of the selections -/
theorem select_union (c : Ctx V) (p1 p2 : List (Series V)) (s : VSel) (t : Int) :
    selectV { c with st := p1 ++ p2 } s t = selectV { c with st := p1 } s t ++ selectV { c with st := p2 } s t :=
  selectV_union c p1 p2 s t

/-- range functions commute with the union: they are evaluated per series -/
theorem rangefn_union (c : Ctx V) (p1 p2 : List (Series V)) (fn : String) (s : VSel) (r t : Int) :
    evalRangeFn { c with st := p1 ++ p2 } fn s r t
      = evalRangeFn { c with st := p1 } fn s r t ++ evalRangeFn { c with st := p2 } fn s r t :=
  evalRangeFn_union c p1 p2 fn s r t

/-- an empty partition contributes nothing -/
theorem empty_partition (c : Ctx V) (s : VSel) (t : Int) : selectV { c with st := [] } s t = [] := by
  simp [selectV, selectT, matchingSeries]

/-- pointwise functions and unary minus commute with the union -/
theorem pointwise_union (f : Labels × V → Labels × V) (a b : Vec V) : (a ++ b).map f = a.map f ++ b.map f :=
  List.map_append

/-- `group` can be pushed down: the group value is 1 wherever the group is non-empty -/
theorem group_value (p : V) (v : V) (vs : List V) : aggReduce "group" p (v :: vs) = (one : V) := rfl

/-- a reduction that folds an associative step from the first member on re-reduces itself -/
theorem rered_of_red1 {R : List V → V} (f : V → V → V) (hR : ∀ l, R l = red1 f nan l)
    (hassoc : ∀ a b c, f (f a b) c = f a (f b c)) : Rered R R := by
  obtain rfl : R = red1 f nan := funext hR
  exact red1_flatten f nan hassoc

/-- **`max` and `min` are pushed down exactly**: for any number of non-empty partitions of a
group - members in any order within and across them, NaNs and signed zeros included - the
maximum (minimum) of the partitions' maxima (minima) is the maximum (minimum) of the group: the
same value, not just an equal one, because the replacement step of the reference reduction
(`if m < v || isNaN m then v else m`) is associative under the order laws of IEEE comparison
(`LtLaws` on non-NaN values, comparisons with NaN false). -/
theorem rered_max (L : LtLaws (fun v : V => isNaN v = false)) (hn : NanLaw V) (p : V) :
    Rered (aggReduce "max" p) (aggReduce "max" p) :=
  rered_of_red1 (extStep true) (aggReduce_max_eq p) (extStep_assoc L hn true)

theorem rered_min (L : LtLaws (fun v : V => isNaN v = false)) (hn : NanLaw V) (p : V) :
    Rered (aggReduce "min" p) (aggReduce "min" p) :=
  rered_of_red1 (extStep false) (aggReduce_min_eq p) (extStep_assoc L hn false)

/-- `sum` is pushed down exactly where addition is associative (exact arithmetic); for IEEE
doubles the partition sums round differently from the central sum - the `dist` oracle compares
those with a tolerance -/
theorem rered_sum (hassoc : ∀ a b c : V, add (add a b) c = add a (add b c)) (p : V) :
    Rered (aggReduce "sum" p) (aggReduce "sum" p) :=
  rered_of_red1 add (aggReduce_sum_eq p) hassoc

theorem rered_group (p : V) : Rered (aggReduce "group" p) (aggReduce "group" p) := by
  intro l0 ls h0 _
  cases l0 with
  | nil => exact absurd rfl h0
  | cons a as => rw [List.cons_append, group_value, group_value]

/-- `count` is re-reduced by `sum`, where `ofInt` is additive -/
theorem rered_count (hadd : ∀ x y : Int, (ofInt (x + y) : V) = add (ofInt x) (ofInt y)) (p : V) :
    Rered (aggReduce "count" p) (aggReduce "sum" p) := by
  intro l0 ls h0 hne
  have hcount : ∀ l : List V, l ≠ [] → aggReduce "count" p l = ofInt l.length := fun l hl => by
    rw [aggReduce_count_eq, if_neg (by simpa using hl)]
  have hfold : ∀ (ls : List (List V)) (n : Int), (∀ l ∈ ls, l ≠ []) →
      (ls.map (aggReduce "count" p)).foldl add (ofInt n) = ofInt (n + (ls.flatten.length : Int)) := by
    intro ls
    induction ls with
    | nil => intro n _; simp
    | cons l ls ih =>
      intro n hne
      simp only [List.map_cons, List.foldl_cons, List.flatten_cons, List.length_append]
      rw [hcount l (hne l List.mem_cons_self), ← hadd, ih _ (fun q hq => hne q (List.mem_cons_of_mem _ hq))]
      congr 1
      push_cast
      omega
  have hne0 : l0 ++ ls.flatten ≠ [] := fun h => h0 (List.append_eq_nil_iff.mp h).1
  rw [hcount _ hne0, hcount l0 h0]
  show _ = (ls.map (aggReduce "count" p)).foldl add (ofInt l0.length)
  rw [hfold ls _ hne, List.length_append, Int.natCast_add]

/-- `count` is re-aggregated with `sum`: in a value algebra where `ofInt` is additive, the count
over a union is the sum of the counts -/
theorem count_as_sum (p : V) (a b : List V) (ha : a ≠ []) (hb : b ≠ [])
    (hadd : ∀ x y : Int, (ofInt (x + y) : V) = add (ofInt x) (ofInt y)) :
    aggReduce "count" p (a ++ b) = aggReduce "sum" p [aggReduce "count" p a, aggReduce "count" p b] := by
  simpa using rered_count hadd p a [b] ha (by simpa using hb)

/-- the laws hold for exact arithmetic -/
example : LtLaws (fun v : Int => isNaN v = false) :=
  ⟨fun a b _ _ h => by
      have h' : a < b := by simpa [lt] using h
      show decide (b < a) = false
      exact decide_eq_false (by omega),
   fun a b c _ _ _ h1 h2 => by
      have h1' : ¬ a < b := by simpa [lt] using h1
      have h2' : ¬ b < c := by simpa [lt] using h2
      show decide (a < c) = false
      exact decide_eq_false (by omega)⟩
example : NanLaw Int := fun a _ h => by cases h
example : aggReduce "max" (0 : Int) ([3, 1] ++ [[7], [2, 5]].flatten)
    = aggReduce "max" 0 (aggReduce "max" 0 [3, 1] :: [[7], [2, 5]].map (aggReduce "max" 0)) := by decide

/-- the push-down with the groups in the same order: both ways of aggregating succeed with the same vector -/
theorem aggregation_pushdown_exact (op op' : String) (w : Bool) (g : List String) (p : V)
    (hop : (op == "topk" || op == "bottomk") = false) (hop' : (op' == "topk" || op' == "bottomk") = false)
    (hR : Rered (aggReduce op p) (aggReduce op' p)) (parts : List (Vec V)) :
    ∃ partials central,
      parts.mapM (aggregate op w g p) = .ok partials ∧
      aggregate op' w g p partials.flatten = .ok central ∧
      aggregate op w g p parts.flatten = .ok central := by
  refine ⟨parts.map (aggR (groupKey w g) (aggReduce op p)), _,
    mapM_ok _ _ (fun X => aggregate_eq_aggR op w g p X hop) parts, ?_, aggregate_eq_aggR op w g p _ hop⟩
  rw [aggregate_eq_aggR op' w g p _ hop', aggR_pushdown_eq (groupKey w g) (groupKey_idem w g) _ _ hR parts]

/-- **an aggregation that is pushed down gives the central result**: for every grouping
(`by`/`without`, any label list), any number of partitions - empty ones, groups split across
partitions, series in any order - aggregating each partition's samples with `op` and
re-aggregating the concatenated partial results with `op'` yields the groups and values of
aggregating the union with `op` (up to the order of the groups), whenever `op'` re-reduces `op`
(`rered_*`: max/max and min/min exactly for IEEE comparison, group/group, sum/sum under
associativity, count/sum under additivity of `ofInt`). This is the rewrite
`agg(x) -> agg'(coalesce(remote(agg(x)), ...))` of `logicalplan/distribute.go`. -/
theorem aggregation_pushdown (op op' : String) (w : Bool) (g : List String) (p : V)
    (hop : (op == "topk" || op == "bottomk") = false) (hop' : (op' == "topk" || op' == "bottomk") = false)
    (hR : Rered (aggReduce op p) (aggReduce op' p)) (parts : List (Vec V)) :
    ∃ partials dist central,
      parts.mapM (aggregate op w g p) = .ok partials ∧
      aggregate op' w g p partials.flatten = .ok dist ∧
      aggregate op w g p parts.flatten = .ok central ∧
      dist.Perm central := by
  obtain ⟨partials, central, h1, h2, h3⟩ := aggregation_pushdown_exact op op' w g p hop hop' hR parts
  exact ⟨partials, central, central, h1, h2, h3, .refl _⟩

example : ∀ a b c : Int, add (add a b) c = add a (add b c) := fun a b c => Int.add_assoc a b c

/-- a group split across two partitions, a third partition empty: count is re-aggregated with sum -/
example :
    (aggregate "sum" false ["a"] (0 : Int)
        ((aggregate "count" false ["a"] (0 : Int)
            [([⟨"a", "x"⟩, ⟨"b", "1"⟩], 5), ([⟨"a", "z"⟩], 7)]).toOption.getD []
          ++ (aggregate "count" false ["a"] (0 : Int) [([⟨"a", "x"⟩, ⟨"b", "2"⟩], 9)]).toOption.getD []
          ++ (aggregate "count" false ["a"] (0 : Int) []).toOption.getD [])).toOption
      = (aggregate "count" false ["a"] (0 : Int)
          [([⟨"a", "x"⟩, ⟨"b", "1"⟩], 5), ([⟨"a", "z"⟩], 7), ([⟨"a", "x"⟩, ⟨"b", "2"⟩], 9)]).toOption := by
  decide

/-- **topk / bottomk are pushed down soundly**: for a group split over any number of partitions
(any sizes, empty ones, every arrival order, NaN-free values over a strict weak order), the engine's
bounded heap run over the concatenation of the heaps' results per partition keeps a selection of
the `k` extreme samples of the whole group: `min k n` of them, a sub-multiset of the group, none
strictly below a sample that was dropped at either level - ties broken arbitrarily, as in central
execution (`C04.topk_keeps_the_extremes`). -/
theorem topk_pushdown {α : Type} {P : V → Prop} (L : LtLaws P) (top : Bool) (k : Nat) (hk : 1 ≤ k)
    (parts : List (List (α × V))) (hitems : ∀ p ∈ parts, ∀ x ∈ p, P x.2 ∧ isNaN x.2 = false) :
    IsSel top k parts.flatten (kSelect top k (parts.map (kSelect top k)).flatten) := by
  have hsel : ∀ x ∈ (parts.map (kSelect top k)).flatten, P x.2 ∧ isNaN x.2 = false := by
    intro x hx
    obtain ⟨l, hl, hxl⟩ := List.mem_flatten.mp hx
    obtain ⟨p, hp, rfl⟩ := List.mem_map.mp hl
    exact hitems p hp x (kSelect_subset top k p x hxl)
  have h := kSelect_isSel L top k hk _ hsel
  have := isSel_parts L top k (parts.map fun p => (p, kSelect top k p))
    (by
      intro q hq
      obtain ⟨p, hp, rfl⟩ := List.mem_map.mp hq
      exact kSelect_isSel L top k hk p (hitems p hp))
    [] (kSelect top k (parts.map (kSelect top k)).flatten)
    (by
      intro x hx
      simp only [List.map_map, Function.comp_def, List.map_id', List.nil_append] at hx
      obtain ⟨l, hl, hxl⟩ := List.mem_flatten.mp hx
      exact (hitems l hl x hxl).1)
    (by simpa [List.map_map, Function.comp_def] using h)
  simpa [List.map_map, Function.comp_def] using this

/-- **the grouped topk / bottomk, pushed down**: for every grouping, any number of partitions
with groups split across them, `k >= 1`: running `topk` on every partition and `topk` again on
the concatenated partial results keeps, in every group, a selection of the `k` extreme samples of
that group in the union - which is also all that central execution guarantees
(`C04.topk_keeps_the_extremes`). -/
theorem grouped_topk_pushdown {P : V → Prop} (L : LtLaws P) (top : Bool) (w : Bool) (g : List String) (p : V)
    (hp : inInt64 p = true) (hk : 1 ≤ toInt p) (parts : List (Vec V))
    (hitems : ∀ q ∈ parts, ∀ x ∈ q, P x.2 ∧ isNaN x.2 = false) :
    ∃ partials dist,
      parts.mapM (aggregate (if top then "topk" else "bottomk") w g p) = .ok partials ∧
      aggregate (if top then "topk" else "bottomk") w g p partials.flatten = .ok dist ∧
      ∀ kk : Labels, IsSel top (toInt p).toNat
        (parts.flatten.filter fun x => groupKey w g x.1 == kk) (dist.filter fun x => groupKey w g x.1 == kk) := by
  have hk1 : 1 ≤ (toInt p).toNat := by omega
  let sel : Vec V → Vec V := kSelect top (toInt p).toNat
  let aggK : Vec V → Vec V := fun X => (groupBy (fun (x : Labels × V) => groupKey w g x.1) X).flatMap fun gr => sel gr.2
  have hsub : ∀ l, ∀ y ∈ sel l, y ∈ l := kSelect_subset top (toInt p).toNat
  refine ⟨parts.map aggK, aggK (parts.map aggK).flatten, ?_, aggregate_k_eq top w g p hp hk _, fun kk => ?_⟩
  · exact mapM_ok _ _ (aggregate_k_eq top w g p hp hk) parts
  · -- the group `kk` of the distributed result is the heap over the partitions' heaps of group `kk`
    have h1 := filter_flatMap_groups (groupKey w g) sel hsub (parts.map aggK).flatten kk
    have h2 : ((parts.map aggK).flatten.filter fun x => groupKey w g x.1 == kk)
        = ((parts.map fun q => q.filter fun x => groupKey w g x.1 == kk).map sel).flatten := by
      rw [List.filter_flatten, List.map_map, List.map_map]
      congr 1
      apply List.map_congr_left
      intro q _
      exact filter_flatMap_groups (groupKey w g) sel hsub q kk
    show IsSel top (toInt p).toNat _ ((aggK (parts.map aggK).flatten).filter _)
    rw [h1, h2, List.filter_flatten]
    exact topk_pushdown L top (toInt p).toNat hk1 (parts.map fun q => q.filter fun x => groupKey w g x.1 == kk) (by
      intro q' hq' x hx
      obtain ⟨q, hq, rfl⟩ := List.mem_map.mp hq'
      exact hitems q hq x (List.mem_filter.mp hx).1)

/-- a concrete run: top 2 of three partitions -/
example : kSelect true 2 (([[("a", (5 : Int)), ("b", 1), ("c", 7)], [], [("d", 6), ("e", 9)]] : List (List (String × Int))).map
    (kSelect true 2)).flatten = [("c", 7), ("e", 9)] := by decide

/-- the exact aggregations are re-reducible under the laws of the value algebra -/
theorem exact_aggs (L : LtLaws (fun v : V => isNaN v = false)) (hn : NanLaw V)
    (hassoc : ∀ a b c : V, add (add a b) c = add a (add b c))
    (hadd : ∀ x y : Int, (ofInt (x + y) : V) = add (ofInt x) (ofInt y)) :
    ∀ op, exactAggs.contains op = true → ExactAgg (V := V) op := by
  intro op hop
  simp only [exactAggs, List.contains_eq_mem, List.mem_cons, List.mem_nil_iff, or_false, decide_eq_true_eq] at hop
  rcases hop with rfl | rfl | rfl | rfl | rfl
  · exact ⟨rered_sum hassoc nan, by decide, by decide⟩
  · exact ⟨rered_min L hn nan, by decide, by decide⟩
  · exact ⟨rered_max L hn nan, by decide, by decide⟩
  · exact ⟨rered_group nan, by decide, by decide⟩
  · exact ⟨rered_count hadd nan, by decide, by decide⟩

/-- **the distributed plan evaluates to the central result.** `Dist.optDistribute` is the model
of `DistributedExecutionOptimizer.Optimize` (`traverseBottomUp` with its early stops, tied to the
real optimizer by the `distplan` oracle); `Sem.eval` gives `remote i e` the meaning "evaluate `e`
over what engine `i` stores" and `coalesce` "the children's vectors one after the other". For
every expression in `siteOk` (calls with at most one argument, or up to three with a literal or
a scalar-typed one among them - `clamp_min(x, 1)`, `clamp_max(x, scalar(y))`,
`histogram_quantile(0.9, x)`: every well-typed call of the language, since a scalar-typed argument
always stops the traversal (`scalar_stops`) -, `timestamp` included: below it
a selector is walked through untouched, so it still reads the samples' own timestamps, per
partition; distributive aggregations among sum/min/max/group/count), any number of remote engines with any partition of
the series (the local storage being their union, as in the repository's tests), the duplicate
check off as in the engine, and a value algebra with the order laws of IEEE comparison, an
associative addition and an additive `ofInt`: at every step the rewritten plan has exactly the
value of the original one - same groups in the same order, same label sets, same values, same
errors. (For IEEE doubles addition is associative up to rounding only; topk / bottomk sites are
covered by `grouped_topk_pushdown` up to ties.) -/
theorem distributed_plan_is_central (c : Ctx V) (hq : c.q.noDupCheck = true) (hst : c.st = c.parts.flatten)
    (hne : c.parts ≠ []) (L : LtLaws (fun v : V => isNaN v = false)) (hn : NanLaw V)
    (hassoc : ∀ a b c : V, add (add a b) c = add a (add b c))
    (hadd : ∀ x y : Int, (ofInt (x + y) : V) = add (ofInt x) (ofInt y))
    (e e' : Expr V) (hok : siteOk e = true) (h : optDistribute c.parts.length e = some e') (t : Int) :
    eval c t e' = eval c t e := by
  obtain ⟨⟨r1, r2⟩, hr, rfl⟩ := Option.map_eq_some_iff.mp h
  exact (traverse_sound c hq hst hne (exact_aggs L hn hassoc hadd) none e hok r1 r2 hr).1.1 t

/-- `histogram_quantile(0.9, sum by (le) (rate(h_bucket[5m])))` is in `siteOk` -/
example :
    let h : VSel := { matchers := [⟨.eq, "__name__", "h_bucket"⟩], origOffset := 0, atTs := none }
    siteOk (.call "histogram_quantile" [.stepInv (.num (9 : Int)), .agg "sum" false ["le"] (.call "rate" [.msel h 300000])])
      = true := rfl

/-- `clamp_max(m, scalar(n))` is in `siteOk`: the first argument is fetched remotely, which ends the
loop over the arguments (the second stays a local selection - over the union, in this setting) -/
example :
    let m : Expr Int := .vsel { matchers := [⟨.eq, "__name__", "m"⟩], origOffset := 0, atTs := none }
    let n : Expr Int := .vsel { matchers := [⟨.eq, "__name__", "n"⟩], origOffset := 0, atTs := none }
    siteOk (.call "clamp_max" [m, .call "scalar" [n]]) = true ∧
      optDistribute 2 (.call "clamp_max" [m, .call "scalar" [n]])
        = some (.call "clamp_max" [.coalesce [.remote 0 m, .remote 1 m], .call "scalar" [n]]) := by
  exact ⟨rfl, rfl⟩

/-- `max(timestamp(m))` is in `siteOk`, and the selector below `timestamp` stays a selector inside
every remote query -/
example :
    let m : Expr Int := .vsel { matchers := [⟨.eq, "__name__", "m"⟩], origOffset := 0, atTs := none }
    siteOk (.agg "max" false [] (.call "timestamp" [m])) = true ∧
    optDistribute 2 (.agg "max" false [] (.call "timestamp" [m]))
      = some (.agg "max" false [] (.coalesce [.remote 0 (.agg "max" false [] (.call "timestamp" [m])),
                                               .remote 1 (.agg "max" false [] (.call "timestamp" [m]))])) := by
  exact ⟨rfl, rfl⟩

/-- a plan the theorem applies to: `sum by (a) (abs(m))` over two engines becomes
`sum by (a) (coalesce(remote 0 (sum ..), remote 1 (sum ..)))` -/
example :
    let m : Expr Int := .vsel { matchers := [⟨.eq, "__name__", "m"⟩], origOffset := 0, atTs := none }
    siteOk (.agg "sum" false ["a"] (.call "abs" [m])) = true ∧
    optDistribute 2 (.agg "sum" false ["a"] (.call "abs" [m]))
      = some (.agg "sum" false ["a"] (.coalesce [.remote 0 (.agg "sum" false ["a"] (.call "abs" [m])),
                                                 .remote 1 (.agg "sum" false ["a"] (.call "abs" [m]))])) := by
  exact ⟨rfl, rfl⟩

/-- the aggregations the source pushes down (regenerated): `count` among them is rewritten to
a central `sum` -/
theorem pushed_down_aggregations : Gen.distributiveAggs = ["BOTTOMK", "COUNT", "GROUP", "MAX", "MIN", "SUM", "TOPK"] := by
  decide

/-- the model's table of distributive aggregations is the source's (regenerated) -/
theorem model_table_is_source_table :
    (["SUM", "MIN", "MAX", "GROUP", "COUNT", "BOTTOMK", "TOPK"].all fun x => Gen.distributiveAggs.contains x) = true ∧
      distAggs = ["sum", "min", "max", "group", "count", "bottomk", "topk"] ∧
      distAggs.length = Gen.distributiveAggs.length := by decide

/-- exact-arithmetic witness of `count_as_sum`'s hypothesis -/
example : ∀ x y : Int, (ofInt (x + y) : Int) = add (ofInt x) (ofInt y) := fun _ _ => rfl

/-! ### remote execution beyond the optimizer (`execution/remote/operator.go`) -/

/-- **the remote transport is the identity.** The remote operator turns the result of the remote
query into a storage and reads it with a vector selector whose lookback is 0 (`Remote.lean`). For
every result whose series have strictly increasing timestamps - which C19 gives for every
successful result - and every time `t`, the step vector it delivers holds, series by series and in
the result's order, exactly the points stamped `t`: nothing is invented between two points of a
series, after its end, or before its start, and nothing is lost. This is what lets `Sem.eval`
treat `.remote i e` as "the value of `e` on engine `i`" at every step. Tied to the code by the
`krem` kernel correspondence (the real `remote.NewExecution` over a stub query). -/
theorem remote_transport_is_identity (m : RMatrix V) (hw : ∀ s ∈ m, IncTs s.2) (t : Int) :
    remoteRead 0 m t = remoteSpec m t :=
  remote_read_is_spec m hw t

/-- the same over the whole stream, whatever grid the coordinator steps over -/
theorem remote_stream_is_identity (m : RMatrix V) (hw : ∀ s ∈ m, IncTs s.2) (grid : List Int) :
    remoteRun 0 m grid = grid.map fun t => (t, remoteSpec m t) :=
  List.map_congr_left fun t _ => by rw [remote_read_is_spec m hw t]

/-- per series: a point is shown at `t` iff the result has a point stamped `t`, with its value -/
theorem remote_series_exact (pts : List (Int × V)) (h : IncTs pts) (t t' : Int) (v : V) :
    selectSample 0 t (ptsToSamples pts) = some (t', v) ↔ (t' = t ∧ (t, v) ∈ pts) :=
  select_zero_lookback_exact pts h t t' v

/-- an instant result (the `promql.Vector` branch of the adapter) is always well-formed for it -/
theorem remote_instant_result_wellformed (v : List (Labels × Int × V)) (t : Int) :
    remoteRead 0 (vectorAsMatrix v) t = remoteSpec (vectorAsMatrix v) t :=
  remote_read_is_spec _ (vectorAsMatrix_incTs v) t

/-- non-vacuity: a result with a gap and a series that ends early; at t = 20 only series 0 -/
example : IncTs [((0 : Int), (1 : Int)), (20, 2)] ∧
    remoteRead 0 ([([], [(0, 1), (20, 2)]), ([], [(10, 3)])] : RMatrix Int) 20 = [(0, 2)] ∧
    remoteRead 0 ([([], [(0, 1), (20, 2)]), ([], [(10, 3)])] : RMatrix Int) 30 = [] := by
  refine ⟨by unfold IncTs; decide, by decide, by decide⟩

/-- why the lookback has to be 0: read with the coordinator's lookback (here 15) the same result
shows series 1 at t = 20 although it ended at t = 10 - a series kept alive after its end, and not
what the remote engine computed for t = 20 -/
example :
    remoteRead 15 ([([], [(0, 1), (20, 2)]), ([], [(10, 3)])] : RMatrix Int) 20 = [(0, 2), (1, 3)] ∧
    remoteSpec ([([], [(0, 1), (20, 2)]), ([], [(10, 3)])] : RMatrix Int) 20 = [(0, 2)] := by
  exact ⟨by decide, by decide⟩

end PromqlVerif.C10
