/-
C03 - range functions see exactly the window's samples and compute the reference value.
-/
import PromqlVerif.Proofs.Den
import PromqlVerif.Proofs.SelOpProof
import PromqlVerif.Proofs.ShardProof
namespace PromqlVerif.C03
open PromqlVerif Val

variable {V : Type} [Val V]

/-- the engine's matrix-selector operator with its function, read through its series list, is
the reference evaluation of the range function - for every storage, range, offset / @, step -/
theorem rangefn_is_reference (c : Ctx V) (fn : String) (s : VSel) (range t : Int) :
    (engRangeFn c fn s range).den t = .ok (evalRangeFn c fn s range t) := engRangeFn_den c fn s range t

/-- the engine's per-series range scan - `selectPoints` driving Prometheus' `BufferedSeriesIterator`
and re-using its output slice from step to step - returns at every step exactly the window's
non-stale samples: for every sorted sample list, every range `≥ 0` and every strictly increasing
sequence of window ends (any start, step, offset and @; any ratio of step to range, so windows
that overlap, touch or leave gaps) -/
theorem buffered_scan_is_reference (S : List (Sample V)) (hs : SortedT S) (range : Int) (hr : 0 ≤ range)
    (ends : List Int) (hm : ends.Pairwise (· < ·)) :
    selectRangesB range (Buf.new S) [] ends = ends.map (fun r => windowPoints (r - range) r S) := by
  have key : ∀ (refs : List Int) (b : Buf V) (out : List (Int × V)) (bound lo' hi' : Int),
      BInv S range b bound → out = windowPoints lo' hi' S →
      (∀ r ∈ refs, bound ≤ r ∧ lo' ≤ r - range ∧ hi' < r) → refs.Pairwise (· < ·) →
      selectRangesB range b out refs = refs.map fun r => windowPoints (r - range) r S := by
    intro refs
    induction refs with
    | nil => intros; rfl
    | cons r rs ih =>
      intro b out bound lo' hi' hinv hout hall hmono
      obtain ⟨hb, hlo, hhi⟩ := hall r List.mem_cons_self
      obtain ⟨h1, h2⟩ := selectPointsB_spec S hs range range hr (Int.le_refl _) b bound r hb hinv out lo' hi'
        hout hlo hhi (fun s _ h3 h4 => by omega)
      simp only [selectRangesB, List.map_cons]
      rw [h1]
      congr 1
      refine ih _ _ r (r - range) r h2 rfl (fun r' hr' => ?_) (List.pairwise_cons.mp hmono).2
      have := (List.pairwise_cons.mp hmono).1 r' hr'
      omega
  have h0 := head_le_of_pairwise (hm.imp Int.le_of_lt)
  exact key ends (Buf.new S) [] (ends.head?.getD 0) (ends.head?.getD 0 - range) (ends.head?.getD 0 - range - 1)
    (binv_new S range _) (window_empty S _ _ (by omega)).symm
    (fun r hr => by have := h0 r hr; omega) hm

/-- **the matrix selector's scan as `matrixSelector.Next` drives it**: after every step the operator
shrinks the iterator's buffer to `min(range, step)` milliseconds (`ReduceDelta`) and relies on the
points it retained in `previousPoints` for the older part of the next window. Modelled as written
(`selectRangesM`): for every sorted sample list, every range `≥ 0`, every step `> 0`, every start
and step count, each step's points are exactly the window's non-stale samples. -/
theorem matrix_scan_is_reference (S : List (Sample V)) (hs : SortedT S) (range step : Int) (hr : 0 ≤ range)
    (hst : 0 < step) (r0 : Int) (n : Nat) :
    selectRangesM range step range (Buf.new S) [] ((List.range n).map fun (k : Nat) => r0 + (k : Int) * step) =
      (List.range n).map fun (k : Nat) => windowPoints (r0 + (k : Int) * step - range) (r0 + (k : Int) * step) S := by
  rw [← ends_eq_range]
  refine (selectRangesM_eq_runR range step _ (MState.new range S)).trans ?_
  rw [(runR_spec S hs range step hr hst n r0 _ (msinv_new S range step hr r0)).1, ends_eq_range, List.map_map]
  rfl

theorem rangefn_step_eq (c : Ctx V) (fn : String) (s : VSel) (range t : Int) :
    (engRangeFn c fn s range).step t =
      .ok (rangeStep fn range ((matchingSeries c s).map (·.samples)) (t - s.offsetAt c.start)) := by
  simp only [engRangeFn, rangeStep]
  rw [enum_map, List.filterMap_map]
  congr 1

/-- **the matrix-selector operator as it is written**: `matrixSelector.Next` keeps one buffered
iterator and one `previousPoints` slice per series for the whole query, shrinks the buffer after
every step, and fills the step vectors of a batch series by series. Modelled as written
(`SelOp.lean`): for every storage with sorted series, matcher set, range `≥ 0`, step `> 0`, offset
/ @, start, and every split of the steps into batches, the stream of step vectors it produces is
the per-step evaluation `engRangeFn` is defined by. -/
theorem matrix_operator_stream (c : Ctx V) (fn : String) (s : VSel) (range step : Int) (hr : 0 ≤ range)
    (hst : 0 < step) (hsorted : ∀ sr ∈ c.st, SortedT sr.samples) (t0 : Int) (ns : List Nat) :
    (msStream fn range step (((matchingSeries c s).map (·.samples)).map (MState.new range))
        (t0 - s.offsetAt c.start) ns).map Except.ok =
      (ends t0 step ns.sum).map (engRangeFn c fn s range).step := by
  rw [msStream_spec fn range step hr hst _ ?_, ← ends_shift]
  · simp only [List.map_map]
    apply List.map_congr_left
    intro t _
    simp only [Function.comp]
    exact (rangefn_step_eq c fn s range t).symm
  · intro sm hsm
    obtain ⟨sr, hsr, rfl⟩ := List.mem_map.mp hsm
    exact hsorted sr (List.mem_filter.mp hsr).1

/-- the hypotheses are met by a series with a staleness marker and overlapping windows -/
example : SortedT ([⟨1, .num 1⟩, ⟨5, .stale⟩, ⟨9, .num 3⟩] : List (Sample Int)) ∧
    ([4, 9, 10] : List Int).Pairwise (· < ·) := by
  constructor <;> simp [SortedT]

/-- the window is exactly the non-stale samples with `mint ≤ t ≤ maxt`: a function of the
series and the window only - independent of what earlier steps consumed -/
theorem window_mem (mint maxt : Int) (ss : List (Sample V)) (p : Pt V) :
    p ∈ windowPoints mint maxt ss ↔ ∃ s ∈ ss, s.v = .num p.2 ∧ s.t = p.1 ∧ mint ≤ s.t ∧ s.t ≤ maxt := by
  rw [mem_window_iff]
  exact ⟨fun ⟨s, hs, a, b, c, d⟩ => ⟨s, hs, d, a.symm, b, c⟩, fun ⟨s, hs, d, a, b, c⟩ => ⟨s, hs, a.symm, b, c, d⟩⟩

/-- both window edges are inclusive; one millisecond outside is excluded; stale markers are skipped -/
theorem window_edges (mint maxt : Int) (a b x y : V) (h : mint ≤ maxt) :
    windowPoints mint maxt
      [⟨mint - 1, .num x⟩, ⟨mint, .num a⟩, ⟨maxt, .num b⟩, ⟨maxt + 1, .num y⟩] = [(mint, a), (maxt, b)] := by
  have h1 : ¬ mint ≤ mint - 1 := by omega
  have h2 : ¬ maxt + 1 ≤ maxt := by omega
  simp [windowPoints, h, h1, h2]

theorem window_skips_stale (mint maxt t : Int) :
    windowPoints mint maxt [(⟨t, .stale⟩ : Sample V)] = [] := by
  simp [windowPoints]

/-- rate-like functions and the instant ones need two samples -/
theorem needs_two_samples (fn : String) (hfn : fn ∈ ["rate", "increase", "delta", "irate", "idelta", "deriv"])
    (p : Pt V) (rs re : Int) (secs : V) : rangeKernel fn [p] rs re secs = none := by
  simp only [List.mem_cons, List.mem_nil_iff, or_false] at hfn
  -- which branch a name selects, and what it yields on one point, is computation; `simp` through the
  -- 17-way string match is slow to check
  rcases hfn with rfl | rfl | rfl | rfl | rfl | rfl <;> rfl

/-- an empty window yields no output, whatever the function -/
theorem empty_window_no_output (fn : String) (rs re : Int) (secs : V) :
    rangeKernel fn ([] : List (Pt V)) rs re secs = none := rfl

/-- `*_over_time` functions have an output for every non-empty window -/
theorem over_time_present (p : Pt V) (ps : List (Pt V)) (rs re : Int) (secs : V) :
    (rangeKernel "count_over_time" (p :: ps) rs re secs).isSome ∧
    (rangeKernel "sum_over_time" (p :: ps) rs re secs).isSome ∧
    (rangeKernel "last_over_time" (p :: ps) rs re secs).isSome ∧
    (rangeKernel "present_over_time" (p :: ps) rs re secs).isSome := by
  refine ⟨rfl, rfl, ?_, rfl⟩
  change ((p :: ps).getLast?.map (·.2)).isSome = true
  rw [List.getLast?_cons]
  rfl

/-- exact-arithmetic sanity of the kernels on a concrete window (Int instance) -/
example : rangeKernel "count_over_time" [((0 : Int), (5 : Int)), (10, 7), (20, 4)] 0 20 20 = some 3 := by decide
example : rangeKernel "resets" [((0 : Int), (5 : Int)), (10, 7), (20, 4)] 0 20 20 = some 1 := by decide
example : rangeKernel "changes" [((0 : Int), (5 : Int)), (10, 5), (20, 4)] 0 20 20 = some 1 := by decide

/-- **sharding is transparent for range functions too**: the series split into shards in any
way, each shard's `matrixSelector` producing one batch (`matrix_operator_stream`), the shards
arriving at the coalesce operator in any order: every merged step vector is - up to the order of
its samples - the range function over all the series at that step. -/
theorem sharded_rangefn_batch (fn : String) (range : Int) (stamp : Int → Int) (refs : List Int) (hrefs : refs ≠ [])
    (shards : List (List (List (Sample V)))) (hsh : shards ≠ [])
    (arr : List (Nat × List (List (Sample V))))
    (harr : arr.Perm ((offsetsOf (shards.map List.length)).zip shards)) :
    ∃ out, coalesceNext ((arr.map (shardArrival (fun s r =>
        rangeKernel fn (windowPoints (r - range) r s) (r - range) r (rangeSeconds range)) stamp refs)).map
        fun a => (a.1, some a.2)) = .ok (some out) ∧
      All2 (fun (sv : SV V) (r : Int) => sv.1 = stamp r ∧ sv.2.Perm (rangeStep fn range shards.flatten r)) out refs := by
  rw [rangeStep_eq_perStep]
  exact sharded_batch _ stamp refs hrefs shards hsh arr harr

end PromqlVerif.C03
