/-
C08 - every valid query is answered: unsupported constructs fall back, never degrade.
-/
import PromqlVerif.Proofs.EngInd
import PromqlVerif.Proofs.ExceptOk
import PromqlVerif.Gen.Facts
namespace PromqlVerif.C08
open PromqlVerif Val

variable {V : Type} [Val V]

/-- plan construction fails only with the class that triggers the fallback - for every
expression, an unsupported node in any position included -/
theorem creation_error_is_unsupported (c : Ctx V) (e : Expr V) (er : Err) (h : engOp c e = .error er) :
    er = .unsupported := engOp_err c e er h

/-- the model's dispatch tables are the ones in the source (regenerated on every run):
`function.Funcs`, the accumulators, the vectorized accumulators, the binary operations -/
def sameSet (a b : List String) : Bool := a.all (fun x => b.contains x) && b.all (fun x => a.contains x)

theorem funcs_table_matches : sameSet engineFuncs Gen.funcs = true := by decide +kernel
theorem accumulators_match : sameSet engineAccumulators Gen.accumulators = true := by decide +kernel
theorem vectorized_match : sameSet vectorizedAggs Gen.vectorAccumulators = true := by decide +kernel
theorem binops_match : sameSet engineBinOps Gen.binaryOps = true := by decide +kernel
theorem comparison_ops_match : sameSet comparisonOps Gen.vectorBinaryOps = true := by decide +kernel

/-- constructs outside the native fragment are rejected at construction -/
theorem string_literal_unsupported (c : Ctx V) : ∃ er, engOp c (.str : Expr V) = .error er := ⟨_, by rw [engOp]⟩
theorem subquery_unsupported (c : Ctx V) (e : Expr V) : ∃ er, engOp c (.subq e) = .error er := ⟨_, by rw [engOp]⟩
theorem bare_matrix_unsupported (c : Ctx V) (s : VSel) (r : Int) : ∃ er, engOp c (.msel s r : Expr V) = .error er :=
  ⟨_, by rw [engOp]⟩

/-- set operators are unsupported in every operand configuration -/
theorem set_operator_unsupported (c : Ctx V) (op : String) (hop : op ∈ setOps) (b : Bool) (m : Matching) (l r : Expr V) :
    ∃ er, engOp c (.bin op b m l r) = .error er := by
  have hno := (by decide +kernel : ∀ op ∈ setOps, engineBinOps.contains op = false) op hop
  rw [engOp]
  cases engOp c l with
  | error e => exact ⟨e, rfl⟩
  | ok lo =>
    cases engOp c r with
    | error e => exact ⟨e, rfl⟩
    | ok ro => exact ⟨.unsupported, if_pos (by rw [hno]; rfl)⟩

/-- an unsupported argument makes the enclosing aggregation unsupported (position closure,
one instance; the general statement is `creation_error_is_unsupported`) -/
theorem unsupported_operand_propagates (c : Ctx V) (op : String) (w : Bool) (g : List String) (e : Expr V) (er : Err)
    (h : engOp c e = .error er) : engOp c (.agg op w g e) = .error er := by
  rw [engOp, h]
  rfl

/-! ### no operand's rejection is lost

An expression is planned natively only if each of its operands is: whichever operand plan
construction rejects - the first or a later one, the vector or a scalar argument - the rejection
is the result for the whole expression, so the query reaches the fallback. (The shape of a seeded
change that the enumeration missed at first: `histogram_quantile(q, b)` planning both arguments
and looking only at the second error.) -/

theorem binary_operands_propagate (c : Ctx V) (op : String) (b : Bool) (m : Matching) (l r : Expr V) (er : Err) :
    (engOp c l = .error er → engOp c (.bin op b m l r) = .error er) ∧
    (∀ lo, engOp c l = .ok lo → engOp c r = .error er → engOp c (.bin op b m l r) = .error er) := by
  constructor
  · intro h
    rw [engOp, h]
    rfl
  · intro lo hl h
    rw [engOp, hl, h]
    rfl

theorem parameter_and_operand_propagate (c : Ctx V) (op : String) (w : Bool) (g : List String) (p e : Expr V) (er : Err) :
    (engOp c e = .error er → engOp c (.aggP op w g p e) = .error er) ∧
    (∀ o, engOp c e = .ok o → engOp c p = .error er → engOp c (.aggP op w g p e) = .error er) := by
  constructor
  · intro h
    rw [engOp, h]
    rfl
  · intro o ho h
    rw [engOp, ho, h]
    rfl

theorem histogram_arguments_propagate (c : Ctx V) (q a : Expr V) (er : Err) :
    (engOp c q = .error er → engOp c (.call "histogram_quantile" [q, a]) = .error er) ∧
    (∀ qo, engOp c q = .ok qo → engOp c a = .error er → engOp c (.call "histogram_quantile" [q, a]) = .error er) := by
  constructor
  · intro h
    rw [engOp, h]
    rfl
  · intro qo hq h
    rw [engOp, hq, h]
    rfl

/-- a `do` block that succeeds: so did the two computations it starts with -/
theorem both_ok {α β γ : Type} {x : Except Err α} {y : Except Err β} {k : α → β → Except Err γ} {r : γ}
    (h : (do let a ← x; let b ← y; k a b) = .ok r) : (∃ a, x = .ok a) ∧ ∃ b, y = .ok b := by
  simp only [bind_eq_ok] at h
  obtain ⟨a, ha, b, hb, -⟩ := h
  exact ⟨⟨a, ha⟩, b, hb⟩

/-- in general: a natively planned expression has natively planned operands -/
theorem native_needs_native_operands (c : Ctx V) :
    (∀ (e : Expr V) o, engOp c (.neg e) = .ok o → ∃ o', engOp c e = .ok o') ∧
    (∀ (e : Expr V) o, engOp c (.paren e) = .ok o → ∃ o', engOp c e = .ok o') ∧
    (∀ op w g (e : Expr V) o, engOp c (.agg op w g e) = .ok o → ∃ o', engOp c e = .ok o') ∧
    (∀ op w g (p e : Expr V) o, engOp c (.aggP op w g p e) = .ok o →
      (∃ o', engOp c e = .ok o') ∧ ∃ po, engOp c p = .ok po) ∧
    (∀ op b m (l r : Expr V) o, engOp c (.bin op b m l r) = .ok o →
      (∃ lo, engOp c l = .ok lo) ∧ ∃ ro, engOp c r = .ok ro) ∧
    (∀ (q a : Expr V) o, engOp c (.call "histogram_quantile" [q, a]) = .ok o →
      (∃ qo, engOp c q = .ok qo) ∧ ∃ ao, engOp c a = .ok ao) := by
  refine ⟨?_, ?_, ?_, ?_, ?_, ?_⟩
  · intro e o h
    rw [engOp] at h
    exact (bind_eq_ok.mp h).imp fun _ => And.left
  · intro e o h
    rw [engOp] at h
    exact ⟨o, h⟩
  · intro op w g e o h
    exact (engOp_agg_ok h).imp fun _ => And.left
  · intro op w g p e o h
    rw [engOp] at h
    exact both_ok h
  · intro op b m l r o h
    rw [engOp_bin] at h
    exact both_ok h
  · intro q a o h
    rw [engOp] at h
    exact both_ok h

end PromqlVerif.C08
