/-
C11 - results do not depend on core count, scheduling, series order or unrelated data.
-/
import PromqlVerif.Proofs.CoalesceProof
namespace PromqlVerif.C11
open PromqlVerif Val

variable {V : Type} [Val V]

/-- every shard count partitions the series list (every remainder of count mod shards) -/
theorem shard_count_irrelevant {α : Type} (l : List α) (n m : Nat) (hn : 0 < n) (hm : 0 < m) :
    (List.range n).flatMap (fun i => seriesShard l i n) = (List.range m).flatMap (fun i => seriesShard l i m) := by
  rw [shards_cover l n hn, shards_cover l m hm]

/-- any completion order of the merge goroutines denotes the same multiset of samples -/
theorem merge_order_irrelevant {α β : Type} (cs : List (List α × List (Nat × β)))
    (h : ∀ c ∈ cs, ∀ x ∈ c.2, x.1 < c.1.length)
    (m1 m2 : List (List (Nat × β))) (h1 : m1.Perm (coalesceVecs cs)) (h2 : m2.Perm (coalesceVecs cs)) :
    (denote (coalesceSeries cs) m1.flatten).Perm (denote (coalesceSeries cs) m2.flatten) :=
  (coalesce_any_order cs h m1 h1).trans (coalesce_any_order cs h m2 h2).symm

/-- the order in which the storage returns series only permutes a selection -/
theorem storage_order_irrelevant (c : Ctx V) (st' : List (Series V)) (hp : st'.Perm c.st) (s : VSel) (t : Int) :
    (selectV { c with st := st' } s t).Perm (selectV c s t) := by
  unfold selectV selectT matchingSeries
  exact ((hp.filter _).filterMap _).map _

omit [Val V] in
theorem matchingSeries_unrelated (c : Ctx V) (extra : List (Series V)) (s : VSel)
    (hno : ∀ sr ∈ extra, matchAll c.re s.allMatchers sr.labels = false) :
    matchingSeries { c with st := c.st ++ extra } s = matchingSeries c s := by
  unfold matchingSeries
  simp only [List.filter_append]
  rw [(List.filter_eq_nil_iff (l := extra)).mpr fun sr hsr => by simp [hno sr hsr], List.append_nil]

/-- series that no selector of the query matches do not change a selection -/
theorem unrelated_series_irrelevant (c : Ctx V) (extra : List (Series V)) (s : VSel) (t : Int)
    (hno : ∀ sr ∈ extra, matchAll c.re s.allMatchers sr.labels = false) :
    selectV { c with st := c.st ++ extra } s t = selectV c s t := by
  unfold selectV selectT
  rw [matchingSeries_unrelated c extra s hno]

/-- the same for the windows of range functions -/
theorem unrelated_series_irrelevant_range (c : Ctx V) (extra : List (Series V)) (fn : String) (s : VSel) (r t : Int)
    (hno : ∀ sr ∈ extra, matchAll c.re s.allMatchers sr.labels = false) :
    evalRangeFn { c with st := c.st ++ extra } fn s r t = evalRangeFn c fn s r t := by
  unfold evalRangeFn
  rw [matchingSeries_unrelated c extra s hno]

/-- **the merge of the shards does not depend on the scheduler**: `coalesceOperator.Next` as it is
written (`Coalesce.lean`: the first arrival creates the shared batch, every arrival appends under
the lock) - for aligned children and any two orders in which their goroutines arrive, both runs
succeed and their batches have, step by step, the same timestamp and the same samples up to
order. -/
theorem coalesce_arrival_order_irrelevant {V : Type} (ts : List Int) (hts : ts ≠ [])
    (as as' : List (Nat × List (SV V))) (has : AlignedArrivals ts as) (hne : as ≠ []) (hp : as.Perm as') :
    ∃ out out', coalesceNext (as.map fun a => (a.1, some a.2)) = .ok (some out) ∧
      coalesceNext (as'.map fun a => (a.1, some a.2)) = .ok (some out') ∧
      All2 (fun (x y : SV V) => x.1 = y.1 ∧ x.2.Perm y.2) out out' := by
  have has' : AlignedArrivals ts as' := fun a ha => has a (hp.symm.subset ha)
  have hne' : as' ≠ [] := fun h => hne (h ▸ hp).eq_nil
  exact ⟨_, _, coalesceNext_spec ts hts as has hne, coalesceNext_spec ts hts as' has' hne', mergedSpec_perm ts as as' hp⟩

/-- the alignment is needed: with children whose batches differ in length, whether `Next` fails (Go
indexes past the end of the shared batch, a recovered panic) depends on who arrives first (so the
siblings of a plan must deliver the same steps - C18) -/
theorem coalesce_needs_aligned_children :
    ∃ (a b : Nat × Option (List (SV Int))),
      (coalesceNext [a, b]).isOk = false ∧ (coalesceNext [b, a]).isOk = true :=
  ⟨(0, some [(0, [(0, 1)])]), (1, some [(0, [(0, 2)]), (60, [(0, 3)])]), by decide, by decide⟩

/-- the hypotheses of `coalesce_arrival_order_irrelevant` are satisfiable -/
example : AlignedArrivals [0, 60] ([(0, [(0, [(0, 1)]), (60, [])]), (1, [(0, []), (60, [(0, 2)])])] : List (Nat × List (SV Int))) := by
  intro a ha
  simp only [List.mem_cons, List.mem_nil_iff, or_false] at ha
  rcases ha with rfl | rfl <;> rfl

end PromqlVerif.C11
