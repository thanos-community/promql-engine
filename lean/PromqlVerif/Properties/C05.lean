/-
C05 - binary operators match, label, filter and fail exactly as the reference engine.

The vector-vector operator of the pinned tree deviates from the reference (known finding
KF-binary-matching: static hash join, include labels appended, duplicate detection only among
samples that meet). The theorems below cover the parts that agree and exhibit the deviation.
-/
import PromqlVerif.Proofs.Den
import PromqlVerif.Proofs.JoinPos
import PromqlVerif.Proofs.JoinTables
import PromqlVerif.Proofs.TableProof -- not used below: `tag_run_eq` (the reused table) belongs to C05 and is built with it
import PromqlVerif.Proofs.TheoremB
import PromqlVerif.Proofs.TheoremP
namespace PromqlVerif.C05
open PromqlVerif Val

variable {V : Type} [Val V]

/-- vector-scalar operators: the engine's operator (labels `h`, per-sample partial function `g`)
read through its series list is the reference `VectorscalarBinop` shape - a `filterMap` -/
theorem scalar_side_den (child : OpSem V) (h : Labels → Labels) (g : V → Option V) (t : Int) :
    ({ series := child.series.map h
       step := fun t => (child.step t).map fun xs => xs.filterMap fun x => (g x.2).map fun b => (x.1, b) } : OpSem V).den t
      = (child.den t).map fun v => v.filterMap fun p => (g p.2).map fun b => (h p.1, b) := by
  unfold OpSem.den
  cases hs : child.step t with
  | error e => simp [Except.map, hs]
  | ok xs => simp [Except.map, hs, denote_filterMap]

/-- an empty side gives an empty result (no error), as in the reference -/
theorem empty_side (op : String) (b : Bool) (m : Matching) (rhs : Vec V) :
    vectorBinop op b m ([] : Vec V) rhs = .ok [] := by
  simp [vectorBinop]

/-- result labels: arithmetic operators (not atan2) and `bool` comparisons drop the metric name -/
theorem result_drops_name (op : String) (m : Matching) (many one : Labels)
    (hop : dropsName op = true) (hcard : m.card ≠ .oneToOne) (hincl : m.incl = []) :
    resultMetric op false m many one = many.dropName := by
  simp [resultMetric, hop, hcard, hincl]

theorem atan2_keeps_name : dropsName "atan2" = false := by decide

/-- filtering comparisons return the left-hand value, `bool` returns 0/1 -/
theorem comparison_value (op : String) (l r : V) (h : isComparison op = true) :
    elemBinop op l r = (l, compareOp op l r) := by
  simp [elemBinop, h]

def isError {α : Type} (r : Except Err α) (e : Err) : Bool :=
  match r with
  | .error e' => e' == e
  | .ok _ => false

def isOkWith {α : Type} [BEq α] (r : Except Err α) (a : α) : Bool :=
  match r with
  | .error _ => false
  | .ok x => x == a

/-- duplicate series on the "one" side fail the step in the reference ... -/
theorem reference_rejects_duplicate_one_side :
    isError (vectorBinop "+" false ⟨.oneToOne, true, ["a"], []⟩
      [([⟨"__name__", "m"⟩, ⟨"a", "x"⟩], (1 : Int))]
      [([⟨"__name__", "n"⟩, ⟨"a", "x"⟩, ⟨"b", "1"⟩], 1), ([⟨"__name__", "n"⟩, ⟨"a", "x"⟩, ⟨"b", "2"⟩], 2)])
      .manyToMany = true := by decide +kernel

/-- ... and several many-side series in a one-to-one match fail it too -/
theorem reference_rejects_implicit_many_to_one :
    isError (vectorBinop "+" false ⟨.oneToOne, true, ["a"], []⟩
      [([⟨"__name__", "m"⟩, ⟨"a", "x"⟩, ⟨"b", "1"⟩], (1 : Int)), ([⟨"__name__", "m"⟩, ⟨"a", "x"⟩, ⟨"b", "2"⟩], 2)]
      [([⟨"__name__", "n"⟩, ⟨"a", "x"⟩], 1)])
      .manyToOne = true := by decide +kernel

/-- **known finding KF-binary-matching, model-level witness**: on the same step the engine's join
table accepts the implicit many-to-one match and emits two samples for output series with the
same label set `{a="x"}` -/
theorem engine_accepts_implicit_many_to_one :
    let m : Matching := ⟨.oneToOne, true, ["a"], []⟩
    let lhs : List Labels := [[⟨"__name__", "m"⟩, ⟨"a", "x"⟩, ⟨"b", "1"⟩], [⟨"__name__", "m"⟩, ⟨"a", "x"⟩, ⟨"b", "2"⟩]]
    let rhs : List Labels := [[⟨"__name__", "n"⟩, ⟨"a", "x"⟩]]
    let j := engJoin m false lhs rhs
    (j.outputs == [[⟨"a", "x"⟩], [⟨"a", "x"⟩]] &&
      isOkWith (engVectorBinop "+" false .oneToOne j [(0, (1 : Int)), (1, 2)] [(0, 1)]) [(0, 2), (1, 3)]) = true := by
  decide +kernel

/-- the reference engine, one-to-one, distinct match keys on both sides: never an error, one output
per left-hand sample with a partner that passes the comparison, in left-hand order -/
theorem reference_with_unique_keys (op : String) (bool : Bool) (m : Matching) (hc : m.card = .oneToOne)
    (lhs rhs : Vec V) (hl : (lhs.map fun x => sigLabels m x.1).Nodup) (hr : (rhs.map fun x => sigLabels m x.1).Nodup) :
    vectorBinop op bool m lhs rhs = .ok (lhs.filterMap (refPair op bool m rhs)) :=
  vectorBinop_unique op bool m hc lhs rhs hl hr

/-- the engine's first pass: with one output per left-hand series and none shared, it never reports
a duplicate and fills the slots in sample order -/
theorem engine_first_pass (j : Join) (lhs : IdVec V)
    (hinj : ∀ x ∈ lhs, ∀ y ∈ lhs, ∀ o, j.highIdx.getD x.1 none = some o → j.highIdx.getD y.1 none = some o → x.1 = y.1)
    (hids : (lhs.map (·.1)).Pairwise (· ≠ ·)) :
    lhsPass .oneToOne j lhs = .ok (lhs.filterMap fun x => (j.highIdx.getD x.1 none).map fun o => (o, x.2)) :=
  lhsPass_eq j lhs hinj hids

/-- the engine's second pass: with at most one output per right-hand series and none shared, it
never reports a duplicate and emits one probe per right-hand sample, in sample order -/
theorem engine_second_pass (op : String) (bool : Bool) (j : Join) (slotVal : Nat → Option V) (rhs : IdVec V)
    (hone : ∀ y ∈ rhs, (j.lowIdx.getD y.1 []).length ≤ 1)
    (hinj : ∀ y ∈ rhs, ∀ y' ∈ rhs, ∀ o, o ∈ j.lowIdx.getD y.1 [] → o ∈ j.lowIdx.getD y'.1 [] → y.1 = y'.1)
    (hids : (rhs.map (·.1)).Pairwise (· ≠ ·)) :
    (outerFold (vbStep op bool .oneToOne slotVal) (rhsOutsOf .oneToOne j) rhs (.ok ([], []))).map (·.1)
      = .ok (rhs.filterMap (probe op bool j slotVal)) :=
  rhsPass_eq op bool j slotVal rhs hone hinj hids

/-- the reference enumerates the matched pairs from the left, the engine from the right: the same
outputs up to order, for any partial bijection between the two sides and any emission -/
theorem matched_pairs_from_either_side {β : Type} (pm pmInv : Nat → Option Nat)
    (hpm : ∀ i l, pm i = some l ↔ pmInv l = some i) (lhs rhs : IdVec V)
    (hl : (lhs.map (·.1)).Pairwise (· ≠ ·)) (hr : (rhs.map (·.1)).Pairwise (· ≠ ·))
    (e : Nat × V → Nat × V → Option β) :
    (lhs.filterMap fun x => (pm x.1).bind fun l => (rhs.find? (fun z => z.1 == l)).bind fun y => e x y).Perm
      (rhs.filterMap fun y => (pmInv y.1).bind fun i => (lhs.find? (fun z => z.1 == i)).bind fun x => e x y) :=
  matched_perm pm pmInv hpm lhs rhs hl hr e

open Classical in
/-- **C05 for vector-to-vector operators, where the engine is right.** A one-to-one match without
include labels between two operands whose series have pairwise distinct match keys (for every
operator of the engine, `on` / `ignoring` with any label list, with and without `bool`): the join
tables `engJoin` builds from the two series lists (`Proofs/JoinTables.lean`: its loop over the
buckets, by invariant) give every left-hand series with a partner its own output, labelled with the
reference's result metric; at every step, whatever samples the operands deliver (IDs valid and
distinct - the stream contract, C18), the first pass fills one slot per left-hand sample, the second
probes exactly the partner's slot, no duplicate is reported - and the step vector, read through the
output series, is the reference engine's result for the two denoted vectors, up to order. What lies
outside this theorem - several series per key on a side, `group_left` / `group_right` - is what the
known finding KF-binary-matching records. -/
theorem vector_matching_with_unique_keys (op : String) (bool : Bool) (m : Matching)
    (hc : m.card = .oneToOne) (hincl : m.incl = []) (H Lw : List Labels)
    (hH : ∀ i i', i < H.length → i' < H.length → sigLabels m (H.getD i []) = sigLabels m (H.getD i' []) → i = i')
    (hL : ∀ l l', l < Lw.length → l' < Lw.length → sigLabels m (Lw.getD l []) = sigLabels m (Lw.getD l' []) → l = l')
    (lhs rhs : IdVec V) (hlv : ∀ x ∈ lhs, x.1 < H.length) (hrv : ∀ y ∈ rhs, y.1 < Lw.length)
    (hl : (lhs.map (·.1)).Pairwise (· ≠ ·)) (hr : (rhs.map (·.1)).Pairwise (· ≠ ·)) :
    let j := engJoin m (!(dropsName op || bool)) H Lw
    ∃ eng ref, (engVectorBinop op bool .oneToOne j lhs rhs).map (denote j.outputs) = .ok eng ∧
      vectorBinop op bool m (denote H lhs) (denote Lw rhs) = .ok ref ∧ eng.Perm ref :=
  engVectorBinop_unique_keys op bool m hc hincl H Lw hH hL lhs rhs hlv hrv hl hr

/-- the operator `engOp` builds for a vector-to-vector expression is that join over its children's
series lists -/
theorem engOp_vector_vector (c : Ctx V) (op : String) (bool : Bool) (m : Matching) (l r : Expr V) (lo ro : OpSem V)
    (hl : engOp c l = .ok lo) (hr : engOp c r = .ok ro) (hop : engineBinOps.contains op = true)
    (hls : l.isScalar = false) (hrs : r.isScalar = false) (hc : m.card = .oneToOne) :
    engOp c (.bin op bool m l r) = .ok
      { series := (engJoin m (!(dropsName op || bool)) lo.series ro.series).outputs
        step := fun t => do
          let a ← lo.step t
          let b ← ro.step t
          engVectorBinop op bool .oneToOne (engJoin m (!(dropsName op || bool)) lo.series ro.series) a b } := by
  rw [engOp_bin_vv bool m hop hls hrs hl hr, vvOp_oneToOne bool m hc]

/-- **a vector-to-vector operator over two expressions of the Theorem-B fragment**: one-to-one
matching, no include labels, pairwise distinct match keys among the series of each operand. The
operator `engOp` builds emits, at every step, the reference value of `l op r` up to order: the
children deliver the reference values of `l` and `r` (Theorem B) with valid, pairwise distinct IDs
(the contract theorem, C18), and the join is right (`vector_matching_with_unique_keys`): the case
`FragP.join` of Theorem B up to order with operands of the Theorem-B fragment. -/
theorem vector_matching_over_fragment (c : Ctx V) (hq : c.q.noDupCheck = true) (op : String) (bool : Bool)
    (m : Matching) (hc : m.card = .oneToOne) (hincl : m.incl = []) (hop : engineBinOps.contains op = true)
    (l r : Expr V) (hl : Frag false l) (hr : Frag false r) (lo ro : OpSem V)
    (hlo : engOp c l = .ok lo) (hro : engOp c r = .ok ro)
    (hH : ∀ i i', i < lo.series.length → i' < lo.series.length →
      sigLabels m (lo.series.getD i []) = sigLabels m (lo.series.getD i' []) → i = i')
    (hL : ∀ i i', i < ro.series.length → i' < ro.series.length →
      sigLabels m (ro.series.getD i []) = sigLabels m (ro.series.getD i' []) → i = i')
    (t : Int) :
    ∃ o ys out, engOp c (.bin op bool m l r) = .ok o ∧ o.step t = .ok ys ∧
      eval c t (.bin op bool m l r) = .ok (.vec out) ∧ (denote o.series ys).Perm out := by
  obtain ⟨o, ho, hinv⟩ := fragP_inv c hq _ (.join op bool m l r hc hincl hop
    (fun o h => by cases hlo.symm.trans h; exact hH) (fun o h => by cases hro.symm.trans h; exact hL)
    (.base l hl) (.base r hr))
  obtain ⟨ys, out, hys, hev, hperm⟩ := hinv t
  exact ⟨o, ys, out, ho, hys, hev, hperm⟩

/-- a concrete step: two series per side, matched on `a`; one pair matches -/
example :
    ((engVectorBinop "+" false .oneToOne
          (engJoin ⟨.oneToOne, true, ["a"], []⟩ false
            [[⟨"__name__", "m"⟩, ⟨"a", "x"⟩], [⟨"__name__", "m"⟩, ⟨"a", "y"⟩]]
            [[⟨"__name__", "n"⟩, ⟨"a", "y"⟩], [⟨"__name__", "n"⟩, ⟨"a", "z"⟩]])
          [(0, (1 : Int)), (1, 2)] [(0, 10), (1, 20)]).map
        (denote (engJoin ⟨.oneToOne, true, ["a"], []⟩ false
            [[⟨"__name__", "m"⟩, ⟨"a", "x"⟩], [⟨"__name__", "m"⟩, ⟨"a", "y"⟩]]
            [[⟨"__name__", "n"⟩, ⟨"a", "y"⟩], [⟨"__name__", "n"⟩, ⟨"a", "z"⟩]]).outputs)).toOption
      = some [([⟨"a", "y"⟩], 12)] ∧
    (vectorBinop "+" false ⟨.oneToOne, true, ["a"], []⟩
        (denote [[⟨"__name__", "m"⟩, ⟨"a", "x"⟩], [⟨"__name__", "m"⟩, ⟨"a", "y"⟩]] [(0, (1 : Int)), (1, 2)])
        (denote [[⟨"__name__", "n"⟩, ⟨"a", "y"⟩], [⟨"__name__", "n"⟩, ⟨"a", "z"⟩]] [(0, 10), (1, 20)])).toOption
      = some [([⟨"a", "y"⟩], 12)] := by
  decide +kernel

end PromqlVerif.C05
