/-
C19 - every successful result is a well-formed PromQL value. Proven for every plan: label sets
(sorted by name, no repeated name, no empty value) when no vector-vector operator carries include
labels - with include labels the engine's join appends them (known finding KF-binary-include-labels,
model witness below); timestamps strictly increasing; no empty series; no staleness marker (the
value type of a step vector has none). Duplicate label sets after name dropping are known finding
KF-no-duplicate-check.
-/
import PromqlVerif.Proofs.PlanContract
import PromqlVerif.Proofs.Grid
namespace PromqlVerif.C19
open PromqlVerif Val

variable {V : Type} [Val V]

/-- dropping the metric name, `by`/`without` projection and `on`/`ignoring` signatures keep a
label set sorted by name, without repeated names and without empty values -/
theorem wf_filter (p : Label → Bool) (ls : Labels) (h : ls.wf = true) : Labels.wf (ls.filter p) = true :=
  PromqlVerif.wf_filter p ls h

theorem dropName_wf (ls : Labels) (h : ls.wf = true) : ls.dropName.wf = true := PromqlVerif.dropName_wf ls h
theorem keep_wf (ls : Labels) (g : List String) (h : ls.wf = true) : (ls.keep g).wf = true := PromqlVerif.keep_wf ls g h
theorem del_wf (ls : Labels) (g : List String) (h : ls.wf = true) : (ls.del g).wf = true := PromqlVerif.del_wf ls g h

theorem groupLabels_wf (w : Bool) (g : List String) (ls : Labels) (h : ls.wf = true) : (groupLabels w g ls).wf = true :=
  PromqlVerif.groupLabels_wf w g ls h

/-- **every operator of every plan has well-formed series labels**: for every well-typed expression
over the natively supported constructs whose vector-vector operators carry no include labels,
every storage with well-formed label sets, every window and lookback - the series list of the
operator built for it (and of every operator below it) consists of label sets sorted by name,
without repeated names, without empty values -/
theorem every_operator_has_wellformed_labels (c : Ctx V) (hst : ∀ sr ∈ c.st, Labels.wf sr.labels = true)
    (b : Bool) (e : Expr V) (h : WT (fun m => m.incl = []) b e) (o : OpSem V) (ho : engOp c e = .ok o) :
    ∀ ls ∈ o.series, Labels.wf ls = true :=
  (plan_contract c b e h o ho).2.2 ⟨fun _ hm => hm, hst⟩

theorem mapM_steps_fst (f : Int → Except Err (IdVec V)) : ∀ (grid : List Int) (steps : List (Int × IdVec V)),
    grid.mapM (fun t => (f t).map fun xs => (t, xs)) = .ok steps → steps.map (·.1) = grid := by
  intro grid
  induction grid with
  | nil => intro steps h; cases h; rfl
  | cons t ts ih =>
    intro steps h
    simp only [List.mapM_cons, bind_eq_ok, map_eq_ok, pure_eq_ok] at h
    obtain ⟨_, ⟨xs, -, rfl⟩, rest, hr, rfl⟩ := h
    simp [ih rest hr]

theorem engRun_matrix (c : Ctx V) (w : Window) (e : Expr V) (hs : w.step ≠ 0)
    (ss : List (Labels × List (Int × V))) (h : engRun c w e = .matrix ss) :
    ∃ o series, engOp c e = .ok o ∧ engCollect o w.grid = .ok series ∧ ∀ s ∈ ss, s ∈ series ∧ s.2 ≠ [] := by
  unfold engRun at h
  split at h
  · cases h
  · rename_i o ho
    split at h
    · cases h
    · rename_i series hcol
      rw [if_pos (by simpa using hs)] at h
      cases h
      refine ⟨o, series, ho, hcol, fun s hs' => ?_⟩
      obtain ⟨hmem, hne⟩ := List.mem_filter.mp ((List.mergeSort_perm _ _).mem_iff.mp hs')
      exact ⟨hmem, by simpa using hne⟩

/-- **the assembled range result**: every series of a successful range result carries a label set
of the root operator, and its points are in strictly increasing time order -/
theorem range_result_series (c : Ctx V) (w : Window) (e : Expr V) (hs : 0 < w.step)
    (ss : List (Labels × List (Int × V))) (h : engRun c w e = .matrix ss) :
    ∃ o, engOp c e = .ok o ∧ ∀ s ∈ ss, s.1 ∈ o.series ∧ (s.2.map (·.1)).Pairwise (· < ·) := by
  obtain ⟨o, series, ho, hcol, hmem⟩ := engRun_matrix c w e (by omega) ss h
  refine ⟨o, ho, fun s hs' => ?_⟩
  simp only [engCollect, bind_eq_ok, pure_eq_ok] at hcol
  obtain ⟨steps, hsteps, rfl⟩ := hcol
  obtain ⟨q, hq, rfl⟩ := List.mem_map.mp (hmem s hs').1
  refine ⟨enum_snd_mem o.series q hq, ?_⟩
  -- the times of a series are a sublist of the times of the steps, which are the grid
  have hsub := fst_filterMap_sublist (·.1)
    (fun (p : Int × IdVec V) => (p.2.find? (·.1 == q.1)).map fun x => (p.1, x.2))
    (fun _ _ hy => fst_of_map_eq_some hy) steps
  rw [mapM_steps_fst o.step w.grid steps hsteps] at hsub
  exact (w.grid_pairwise_lt hs).sublist hsub

/-- so, for the plans of `every_operator_has_wellformed_labels`, every label set of a successful
range result is well-formed -/
theorem range_result_labels_wellformed (c : Ctx V) (hst : ∀ sr ∈ c.st, Labels.wf sr.labels = true)
    (b : Bool) (e : Expr V) (hwt : WT (fun m => m.incl = []) b e) (w : Window) (hs : 0 < w.step)
    (ss : List (Labels × List (Int × V))) (h : engRun c w e = .matrix ss) :
    ∀ s ∈ ss, Labels.wf s.1 = true := by
  obtain ⟨o, ho, hall⟩ := range_result_series c w e hs ss h
  intro s hs'
  exact every_operator_has_wellformed_labels c hst b e hwt o ho s.1 (hall s hs').1

/-- a successful range result of the engine has no empty series -/
theorem range_result_no_empty_series (c : Ctx V) (w : Window) (e : Expr V) (hs : w.step ≠ 0)
    (ss : List (Labels × List (Int × V))) (h : engRun c w e = .matrix ss) : ∀ s ∈ ss, s.2 ≠ [] := by
  obtain ⟨_, _, -, -, hmem⟩ := engRun_matrix c w e hs ss h
  exact fun s hs' => (hmem s hs').2

/-- the include labels of the engine's join are appended, not merged: a label of the "many" side
that is also an include label occurs twice (known finding KF-binary-include-labels, model witness) -/
theorem join_output_labels_can_repeat :
    let m : Matching := ⟨.manyToOne, true, ["a"], ["b"]⟩
    (engJoin m false [[⟨"a", "x"⟩, ⟨"b", "1"⟩]] [[⟨"a", "x"⟩, ⟨"b", "2"⟩]]).outputs
      = [[⟨"a", "x"⟩, ⟨"b", "1"⟩, ⟨"b", "2"⟩]] := by decide +kernel

end PromqlVerif.C19
