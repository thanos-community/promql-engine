/-
C01 - natively evaluated queries return what the reference Prometheus engine returns.

`Sem.eval` with `Quirks.none` is the reference semantics (validated against the real Prometheus
engine by the `prom_vs_spec` stream), `engOp` is the engine (validated against the real engine
by the `eng_vs_model` stream). The theorem below composes the per-operator agreements over a
fragment of the language; the remaining operators are covered operator-wise in C04-C06 and by
the two correspondence streams. Guard: the engine has no duplicate-labelset check (known
finding KF-no-duplicate-check), so agreement is with the reference *without* that check.
-/
import PromqlVerif.Proofs.AccProof
import PromqlVerif.Proofs.OptSound
import PromqlVerif.Proofs.TheoremP
namespace PromqlVerif.C01
open PromqlVerif Val

variable {V : Type} [Val V]

/-- **C01 on the typed fragment** (`Proofs/TheoremB.lean`): number literals, `time()`, `pi()`,
selectors (any matchers, offset, @), range functions over matrix selectors, pointwise math
functions, `scalar()`, `vector()`, `clamp*` with scalar-typed bounds, unary minus / plus,
parentheses, step-invariant wrappers, and every arithmetic / comparison operator with a scalar on
either or both sides (with and without `bool`) - arbitrarily nested. For every storage, lookback,
window start and step time the engine builds an operator, and what it emits at the step, read
through its series list, is exactly the reference value (in the same order); sample IDs index
the series list. Guard `hq`: agreement is with the reference without its duplicate-labelset
check, which the engine lacks (known finding KF-no-duplicate-check). -/
theorem engine_equals_reference_on_fragment (c : Ctx V) (hq : c.q.noDupCheck = true) (b : Bool) (e : Expr V)
    (h : Frag b e) : ∃ o, engOp c e = .ok o ∧ Inv c b e o := frag_inv c hq b e h

theorem vector_fragment (c : Ctx V) (hq : c.q.noDupCheck = true) (e : Expr V) (h : Frag false e) (t : Int) :
    ∃ o xs, engOp c e = .ok o ∧ o.step t = .ok xs ∧ (∀ x ∈ xs, x.1 < o.series.length) ∧
      eval c t e = .ok (.vec (denote o.series xs)) := by
  obtain ⟨o, ho, hstep⟩ := frag_ok c hq h
  obtain ⟨xs, _, h1, h2, rfl⟩ := hstep t
  exact ⟨o, xs, ho, h1, frag_ids h ho h1, h2⟩

/-- for scalar-typed expressions of the fragment: exactly one label-less sample per step, the reference value -/
theorem scalar_fragment (c : Ctx V) (hq : c.q.noDupCheck = true) (e : Expr V) (h : Frag true e) (t : Int) :
    ∃ o s, engOp c e = .ok o ∧ o.series = [[]] ∧ o.step t = .ok [(0, s)] ∧ eval c t e = .ok (.scal s) := by
  obtain ⟨o, ho, hser, hstep⟩ := frag_ok c hq h
  obtain ⟨s, h1, hev⟩ := hstep t
  exact ⟨o, s, ho, hser, h1, hev⟩

/-- non-vacuity: `clamp_min(-rate(m{a="x"}[1m] offset 30s), scalar(n) * 2) > bool time()` is in the fragment -/
example : Frag false
    (.bin ">" true ⟨.oneToOne, false, [], []⟩
      (.call "clamp_min" [.neg (.call "rate" [.msel ⟨[⟨.eq, "__name__", "m"⟩, ⟨.eq, "a", "x"⟩], 30000, none, none⟩ 60000]),
        .bin "*" false ⟨.oneToOne, false, [], []⟩ (.call "scalar" [.vsel ⟨[⟨.eq, "__name__", "n"⟩], 0, none, none⟩]) (.num (ofInt 2))])
      (.call "time" []) : Expr V) :=
  .binVS ">" true _ _ _ (by decide +kernel)
    (.clampMin _ _ (.neg _ _ (.rangefn "rate" _ _ (by decide +kernel)))
      (.binSS "*" false _ _ _ (by decide +kernel) (.scalar _ (.vsel _)) (.num _)))
    .time

/-- the fragment is closed under selector rewrites -/
theorem frag_mapSelectors (f : VSel → VSel) (b : Bool) (e : Expr V) (h : Frag b e) : Frag b (mapSelectors f e) := by
  -- `mapSelectors f` of a constructor applied to arguments unfolds by computation
  induction h with
  | num v => exact .num v
  | time => exact .time
  | pi => exact .pi
  | vsel s => exact .vsel _
  | rangefn fn s r hfn => exact .rangefn fn _ r hfn
  | neg b a _ ih => exact .neg b _ ih
  | pos b a _ ih => exact .pos b _ ih
  | paren b a _ ih => exact .paren b _ ih
  | simple fn a hfn _ ih => exact .simple fn _ hfn ih
  | scalar a _ ih => exact .scalar _ ih
  | vector a _ ih => exact .vector _ ih
  | clampMin a lo _ _ iha ihlo => exact .clampMin _ _ iha ihlo
  | clampMax a hi _ _ iha ihhi => exact .clampMax _ _ iha ihhi
  | clamp a lo hi _ _ _ iha ihlo ihhi => exact .clamp _ _ _ iha ihlo ihhi
  | stepInvNum v => exact .stepInvNum v
  | binVS op bl m a sc hop _ _ iha ihs => exact .binVS op bl m _ _ hop iha ihs
  | binSV op bl m sc a hop _ _ ihs iha => exact .binSV op bl m _ _ hop ihs iha
  | binSS op bl m x y hop _ _ ihx ihy => exact .binSS op bl m _ _ hop ihx ihy
  | stepInv b a hn ha _ =>
    -- under a step-invariant wrapper only a selector that is the direct child is rewritten
    cases a with
    | vsel s => cases ha; exact .stepInv false _ nofun (.vsel _)
    | _ => exact .stepInv b _ hn ha

/-- **C01 on the fragment with the selector optimizers on**: the engine's operator tree built
from the *optimized* plan (matchers sorted, selects merged into broader selects with in-engine
filters) emits, at every step, exactly the reference value of the *original* expression -/
theorem engine_equals_reference_with_optimizers (c : Ctx V) (hq : c.q.noDupCheck = true) (e : Expr V)
    (h : Frag false e) (t : Int) :
    ∃ o xs, engOp c (optMergeSelects (optSortMatchers e)) = .ok o ∧ o.step t = .ok xs ∧
      (∀ x ∈ xs, x.1 < o.series.length) ∧ eval c t e = .ok (.vec (denote o.series xs)) := by
  have hfrag : Frag false (optMergeSelects (optSortMatchers e)) :=
    frag_mapSelectors _ false _ (frag_mapSelectors _ false e h)
  obtain ⟨o, xs, ho, hs, hids, hev⟩ := vector_fragment c hq _ hfrag t
  refine ⟨o, xs, ho, hs, hids, ?_⟩
  rw [← hev]
  exact ((mapSelectors_sound c _ (sameSel_mergeSel c _) _ t).trans (mapSelectors_sound c _ (sameSel_sortMatchers c) e t)).symm

/-- **C01 up to order, through aggregations and vector matching** (`Proofs/TheoremP.lean`). The
fragment above closed under
  * aggregations `op by/without (..) (e)` on both of the engine's paths (hash table, vectorized),
    for every aggregator whose accumulator is the reference reduction on non-empty groups (`hR`:
    `C04.reduce_hyp_plain/_sum/_avg`) and whose reduction does not depend on the order of the
    members (`hP`: `perm_hyp_count`, `perm_hyp_group` outright; `perm_hyp_max/_min` and
    `perm_hyp_quantile` - with a scalar-typed parameter of the fragment, `aggP` - under the IEEE
    order laws with trichotomy and one NaN; `perm_hyp_sum` under associativity and commutativity),
  * one-to-one vector matching `l op on/ignoring (..) r`, with and without `bool`, between operands
    whose series have pairwise distinct match keys (`UniqueKeys`; `uniqueKeys_agg`: always the case
    for `agg by (g) (..)` matched `on (g)` and `agg without (g) (..)` matched `ignoring (g)`),
  * pointwise functions, unary minus, parentheses, vector-scalar arithmetic and comparison,
    `clamp_min` / `clamp_max` with scalar-typed bounds of the fragment,
  * `timestamp()` of an unpinned selector (with the reference's own-timestamp semantics),
nested to any depth: plan construction succeeds, no step fails in either engine, and the step
vector read through `Series()` is a permutation of the reference value. The engine orders groups
and join outputs statically and the reference by first appearance at the step, so a permutation
is all there is; it composes because the reference operators are invariant under permutations of
their operands (`aggregate_perm`, `vectorBinop_perm`). -/
theorem engine_equals_reference_up_to_order (c : Ctx V) (hq : c.q.noDupCheck = true) (e : Expr V) (h : FragP c e) :
    ∃ o, engOp c e = .ok o ∧
      ∀ t, ∃ xs out, o.step t = .ok xs ∧ eval c t e = .ok (.vec out) ∧ (denote o.series xs).Perm out :=
  fragP_inv c hq e h

theorem fragP_count (c : Ctx V) (w : Bool) (g : List String) (a : Expr V) (h : FragP c a) :
    FragP c (.agg "count" w g a) :=
  .agg "count" w g a (by decide +kernel) (fun vals _ => engReduce_eq_reference "count" nan vals (by decide +kernel) (by decide +kernel))
    (perm_hyp_count nan) h

/-- non-vacuity, for every storage: `count(abs(count by (a) (m) / on (a) group by (a) (rate(n[1m]))) > 0)` -/
example (c : Ctx V) : FragP c
    (.agg "count" false []
      (.bin ">" false ⟨.oneToOne, false, [], []⟩
        (.call "abs" [.bin "/" false ⟨.oneToOne, true, ["a"], []⟩
          (.agg "count" false ["a"] (.vsel ⟨[⟨.eq, "__name__", "m"⟩], 0, none, none⟩))
          (.agg "group" false ["a"] (.call "rate" [.msel ⟨[⟨.eq, "__name__", "n"⟩], 0, none, none⟩ 60000]))])
        (.num (ofInt 0))) : Expr V) :=
  fragP_count c false [] _
    (.binVS ">" false _ _ _ (by decide +kernel)
      (.simple "abs" _ (by decide +kernel)
        (.join "/" false _ _ _ rfl rfl (by decide +kernel)
          (uniqueKeys_agg c _ "count" false ["a"] _ rfl rfl)
          (uniqueKeys_agg c _ "group" false ["a"] _ rfl rfl)
          (fragP_count c false ["a"] _ (.base _ (.vsel _)))
          (.agg "group" false ["a"] _ (by decide +kernel) (fun vals _ => engReduce_eq_reference "group" nan vals (by decide +kernel) (by decide +kernel)) (perm_hyp_group nan)
            (.base _ (.rangefn "rate" _ _ (by decide +kernel))))))
      (.num _))

/-- ... `count by (a) (timestamp(m))`, for every context with the reference's `timestamp()` -/
example (c : Ctx V) (hts : c.q.timestampIsStepTime = false) : FragP c
    (.agg "count" false ["a"] (.call "timestamp" [.vsel ⟨[⟨.eq, "__name__", "m"⟩], 0, none, none⟩]) : Expr V) :=
  fragP_count c false ["a"] _ (.tsSel _ rfl hts)

/-- ... and, under the order laws, `quantile(scalar(q), max by (a) (m))` -/
example (c : Ctx V) (L : LtLaws (fun v : V => isNaN v = false)) (hn : NanLaw V)
    (htri : ∀ a b : V, isNaN a = false → isNaN b = false → lt a b = false → lt b a = false → a = b)
    (hnan : ∀ a b : V, isNaN a = true → isNaN b = true → a = b) : FragP c
    (.aggP "quantile" false [] (.call "scalar" [.vsel ⟨[⟨.eq, "__name__", "q"⟩], 0, none, none⟩])
      (.agg "max" false ["a"] (.vsel ⟨[⟨.eq, "__name__", "m"⟩], 0, none, none⟩)) : Expr V) :=
  .aggP "quantile" false [] _ _ (by decide +kernel) (by decide +kernel)
    (fun q vals _ => engReduce_eq_reference "quantile" q vals (by decide +kernel) (by decide +kernel)) (perm_hyp_quantile L hn htri hnan)
    (.scalar _ (.vsel _))
    (.agg "max" false ["a"] _ (by decide +kernel) (fun vals _ => engReduce_eq_reference "max" nan vals (by decide +kernel) (by decide +kernel))
      (perm_hyp_max L hn htri hnan nan) (.base _ (.vsel _)))

/-- a creation error is always "unsupported": exactly the queries that fall back -/
theorem creation_error_class (c : Ctx V) (e : Expr V) (er : Err) (h : engOp c e = .error er) : er = .unsupported :=
  engOp_err c e er h

end PromqlVerif.C01
