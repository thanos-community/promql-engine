/-
C06 - instant functions, scalars, unary minus and @-pinned parts match the reference.
-/
import PromqlVerif.Proofs.TheoremB
import PromqlVerif.Proofs.EvalEqns
import PromqlVerif.Proofs.ExceptOk
namespace PromqlVerif.C06
open PromqlVerif Val

variable {V : Type} [Val V]

/-- a pointwise function operator (labels `h`, values `g`) over any child: what the engine emits,
read through its series list, is the child's reading mapped pointwise -/
theorem pointwise_function_den (child : OpSem V) (h : Labels → Labels) (g : V → V) (t : Int) :
    ({ series := child.series.map h
       step := fun t => (child.step t).map fun xs => xs.map fun x => (x.1, g x.2) } : OpSem V).den t
      = (child.den t).map fun v => v.map fun p => (h p.1, g p.2) := by
  unfold OpSem.den
  cases hs : child.step t with
  | error e => simp [Except.map, hs]
  | ok xs => simp [Except.map, hs, denote_map]

/-- **`timestamp(selector)` reads the selected samples' own timestamps, in the engine as in the
reference** (unpinned selector; under `@` with an offset the reference has the quirk the known
finding KF-timestamp-at-offset records): the engine builds the selector in its timestamp mode and
drops the name; at every step what it emits, read through its series list, is exactly the
reference value - also when the selected sample is older than the step. -/
theorem timestamp_of_selector (c : Ctx V) (hq : c.q.noDupCheck = true) (hts : c.q.timestampIsStepTime = false)
    (s : VSel) (hat : s.atTs = none) (t : Int) :
    ∃ o, engOp c (.call "timestamp" [.vsel s]) = .ok o ∧
      (o.den t).map Value.vec = eval c t (.call "timestamp" [.vsel s]) := by
  obtain ⟨o, ho, h⟩ := vecOk_timestamp_vsel c hq hts s hat
  obtain ⟨xs, out, hxs, hev, rfl⟩ := h t
  exact ⟨o, ho, by rw [OpSem.den, hxs, hev]; rfl⟩

/-- `scalar(v)` is the value of the only element, NaN otherwise -/
theorem scalar_semantics (c : Ctx V) (t : Int) (e : Expr V) (v : Vec V) (h : eval c t e = .ok (.vec v)) :
    eval c t (.call "scalar" [e]) = .ok (.scal (match v with | [x] => x.2 | _ => nan)) := by
  rw [eval_scalar h]
  unfold singleVal
  cases v with
  | nil => rfl
  | cons x xs => cases xs <;> rfl

/-- `clamp` with `max < min` drops every sample of the step -/
theorem clamp_inverted_bounds_drops (c : Ctx V) (t : Int) (a lo hi : Expr V) (v : Vec V) (l u : V)
    (ha : eval c t a = .ok (.vec v)) (hl : eval c t lo = .ok (.scal l)) (hh : eval c t hi = .ok (.scal u))
    (hlt : lt u l = true) : eval c t (.call "clamp" [a, lo, hi]) = .ok (.vec []) := by
  rw [eval_call3, ha, hl, hh, call3_clamp]
  exact if_pos hlt

/-- a step-invariant (`@`-pinned) part is evaluated once, at the start of the window, and
contributes that same vector to every step - in the reference and in the engine alike -/
theorem step_invariant_reference (c : Ctx V) (t t' : Int) (e : Expr V) :
    eval c t (.stepInv e) = eval c t' (.stepInv e) := by
  rw [eval, eval]

theorem step_invariant_engine (c : Ctx V) (e : Expr V) (o : OpSem V) (t t' : Int)
    (h : engOp c (.stepInv e) = .ok o) : o.step t = o.step t' := by
  rw [engOp_stepInv] at h
  obtain ⟨o', _, h⟩ := bind_eq_ok.mp h
  cases h; rfl

/-- `time()` delivers the step time in seconds at every step; literals their value -/
theorem time_every_step (c : Ctx V) (t : Int) :
    eval c t (.call "time" []) = .ok (.scal (div (ofInt t) (ofInt 1000))) := by
  rw [eval_call_none, if_pos rfl]

theorem literal_every_step (c : Ctx V) (t : Int) (v : V) : eval c t (.num v) = .ok (.scal v) := by rw [eval]

end PromqlVerif.C06
