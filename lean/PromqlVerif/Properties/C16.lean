/-
C16 - storage selects carry the reference engine's matchers, time range and hints (partial:
the time range and its sufficiency for range selectors; the hint fields are compared on the
real code by the `hints` oracle).
-/
import PromqlVerif.Sem
import PromqlVerif.Proofs.TrimSound
import PromqlVerif.Proofs.HintsProof
namespace PromqlVerif.C16
open PromqlVerif Val

variable {V : Type} [Val V]

/-- `getTimeRangesForVectorSelector` (engine) and `getTimeRangesForSelector` (reference):
`@` overrides the window, the lookback or the range is subtracted from the start, the
original offset from both ends -/
def selectRange (start stop lookback : Int) (s : VSel) (range : Option Int) : Int × Int :=
  let (a, b) := match s.atTs with
    | some ts => (ts, ts)
    | none => (start, stop)
  let a := a - (match range with | some r => r | none => lookback)
  (a - s.origOffset, b - s.origOffset)

/-- every sample a range selector reads at any step of the window lies in the hinted range -/
theorem range_window_within_hints (start stop : Int) (s : VSel) (range t : Int)
    (ht : start ≤ t ∧ t ≤ stop) (hat : s.atTs = none) (lookback : Int) :
    (selectRange start stop lookback s (some range)).1 ≤ s.refTime start t - range ∧
      s.refTime start t ≤ (selectRange start stop lookback s (some range)).2 := by
  simp only [selectRange, hat, VSel.refTime, VSel.offsetAt]
  omega

/-- the same for `@`-pinned range selectors evaluated at the start of the window -/
theorem pinned_range_window_within_hints (start stop : Int) (s : VSel) (range ts : Int)
    (hat : s.atTs = some ts) (lookback : Int) :
    (selectRange start stop lookback s (some range)).1 ≤ s.refTime start start - range ∧
      s.refTime start start ≤ (selectRange start stop lookback s (some range)).2 := by
  simp only [selectRange, hat, VSel.refTime, VSel.offsetAt]
  omega

/-- instant selectors: the reference time and the whole lookback interval lie in the hinted range -/
theorem lookback_interval_within_hints (start stop : Int) (s : VSel) (t lookback : Int)
    (ht : start ≤ t ∧ t ≤ stop) (hat : s.atTs = none) :
    (selectRange start stop lookback s none).1 ≤ s.refTime start t - lookback ∧
      s.refTime start t ≤ (selectRange start stop lookback s none).2 := by
  simp only [selectRange, hat, VSel.refTime, VSel.offsetAt]
  omega

/-- the window of a range function only depends on the samples inside `[mint, maxt]`: dropping
everything outside the hinted range changes nothing -/
theorem window_local (lo hi mint maxt : Int) (ss : List (Sample V)) (h1 : lo ≤ mint) (h2 : maxt ≤ hi) :
    windowPoints mint maxt (ss.filter fun s => lo ≤ s.t && s.t ≤ hi) = windowPoints mint maxt ss :=
  windowPoints_trim lo hi mint maxt ss h1 h2

/-! ### sufficiency for whole plans -/

/-- **the hinted ranges are sufficient, for whole plans**: let the storage drop every sample
outside `[lo, hi]`. If that interval contains what every selector of the expression reads at the
times it is evaluated (`Cov`: the lookback interval of an instant selector, the window of a range
selector, at every step of the window - or at its start only below a step-invariant wrapper; what
`timestamp()` reads), then at every step of the window the value of the expression - any nesting of
functions, aggregations with parameters, binary operators, `timestamp()` - is what it is over the
full storage. (Series sorted by time, as a storage delivers them.) -/
theorem hinted_range_suffices_for_plans (lo hi stop : Int) (c : Ctx V) (hs : SortedSt c) (e : Expr V)
    (hcov : Cov lo hi stop c true e) (t : Int) (ht : c.start ≤ t ∧ t ≤ stop) :
    eval (trimCtx lo hi c) t e = eval c t e :=
  trim_sound lo hi stop c hs e true hcov t (by simpa [Times] using ht)

/-- an interval that contains the hinted range of an unpinned instant selector covers it ... -/
theorem cov_of_hints_vsel (lo hi stop : Int) (c : Ctx V) (s : VSel) (hat : s.atTs = none)
    (h1 : lo ≤ (selectRange c.start stop c.lookback s none).1) (h2 : (selectRange c.start stop c.lookback s none).2 ≤ hi) :
    Cov lo hi stop c true (.vsel s) := by
  intro t ht
  simp only [Times, if_true] at ht
  have := lookback_interval_within_hints c.start stop s t c.lookback ht hat
  omega

/-- ... and so for an unpinned range selector below its function ... -/
theorem cov_of_hints_msel (lo hi stop : Int) (c : Ctx V) (s : VSel) (r : Int) (hat : s.atTs = none)
    (h1 : lo ≤ (selectRange c.start stop c.lookback s (some r)).1)
    (h2 : (selectRange c.start stop c.lookback s (some r)).2 ≤ hi) :
    Cov lo hi stop c true (.msel s r) := by
  intro t ht
  simp only [Times, if_true] at ht
  have := range_window_within_hints c.start stop s r t ht hat c.lookback
  omega

/-- ... and for an `@`-pinned range selector below a step-invariant wrapper -/
theorem cov_of_hints_pinned_msel (lo hi stop : Int) (c : Ctx V) (s : VSel) (r ts : Int) (hat : s.atTs = some ts)
    (h1 : lo ≤ (selectRange c.start stop c.lookback s (some r)).1)
    (h2 : (selectRange c.start stop c.lookback s (some r)).2 ≤ hi) :
    Cov lo hi stop c false (.msel s r) := by
  intro t ht
  simp only [Times, Bool.false_eq_true, if_false] at ht
  subst ht
  have := pinned_range_window_within_hints c.start stop s r ts hat c.lookback
  omega

/-! ### the function, grouping, step and range hints -/

/-- **every selector of every expression is created with the `Func`, `By`, `Grouping`, `Step` and
`Range` hints the reference engine gives it** (`Hints.lean`, `Proofs/HintsProof.lean`): the
reference derives function and grouping from the selector's path of ancestors
(`extractFuncFromPath`: the nearest enclosing call or aggregation, nothing beyond a binary
expression; `extractGroupsFromPath`: the parent only, if it is an aggregation), takes `Step` from the
statement's interval, and takes `Range` from a *mutable* variable (`evalRange` in
`populateSeries`) that a matrix selector sets and the next vector selector visited consumes and
resets; the engine hands a hints value down `newOperator`, rewrites function and grouping at calls,
aggregations, binary expressions and wrappers, and writes the range into its local copy at a matrix
selector. By induction over the expression, carrying "the hints in hand are what the path walked so
far yields, their step is the query's, their range is 0, and the reference's `evalRange` is 0". The
second component says that `evalRange` is 0 again when the traversal ends, i.e. no range leaks from
one selector to a later one on either side. The model of the engine's side is compared with the
hints the real engine passes to the storage (`hints` oracle, `eng_vs_model`, all five fields), the
model of the reference's side with those of the real reference engine (the same oracle compares the
two engines). -/
theorem engine_hints_equal_reference_hints {V : Type} (step : Int) (e : Expr V) :
    refHints step [] 0 e = (engHints (Hint.start step) e, 0) :=
  eng_eq_ref step e (Hint.start step) [] ⟨rfl, rfl, rfl, rfl, rfl⟩

/-- `sum by (a) (rate(m[1m])) + max without (b) (-n)`, step 30 s: the range selector below `rate`
gets `rate`, no grouping and the range 60000; the selector below the unary minus keeps `max` but
loses the grouping, and has range 0 (the range of `m[1m]` does not leak to it) -/
example :
    engHints (Hint.start 30000) (.bin "+" false ⟨.oneToOne, false, [], []⟩
      (.agg "sum" false ["a"] (.call "rate" [.msel ⟨[⟨.eq, "__name__", "m"⟩], 0, none, none⟩ 60000]))
      (.agg "max" true ["b"] (.neg (.vsel ⟨[⟨.eq, "__name__", "n"⟩], 0, none, none⟩))) : Expr Int)
      = [⟨"rate", false, [], 30000, 60000⟩, ⟨"max", false, [], 30000, 0⟩] := by decide +kernel

/-- `sum by (a) (m)`: the immediate operand of the aggregation gets its grouping -/
example :
    engHints (Hint.start 1000) (.agg "sum" false ["a"] (.vsel ⟨[⟨.eq, "__name__", "m"⟩], 0, none, none⟩) : Expr Int)
      = [⟨"sum", true, ["a"], 1000, 0⟩] := by decide +kernel

/-- the reference side on the first example: the same hints, and `evalRange` ends at 0 -/
example :
    refHints 30000 [] 0 (.bin "+" false ⟨.oneToOne, false, [], []⟩
      (.agg "sum" false ["a"] (.call "rate" [.msel ⟨[⟨.eq, "__name__", "m"⟩], 0, none, none⟩ 60000]))
      (.agg "max" true ["b"] (.neg (.vsel ⟨[⟨.eq, "__name__", "n"⟩], 0, none, none⟩))) : Expr Int)
      = ([⟨"rate", false, [], 30000, 60000⟩, ⟨"max", false, [], 30000, 0⟩], 0) := by decide +kernel

end PromqlVerif.C16
