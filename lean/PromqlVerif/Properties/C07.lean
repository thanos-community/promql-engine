/-
C07 - a range query equals the sequence of instant queries on its step grid.
-/
import PromqlVerif.Proofs.Den
import PromqlVerif.Proofs.StartInv
import PromqlVerif.Proofs.Grid
import PromqlVerif.Proofs.TheoremP
import PromqlVerif.Proofs.StreamsProof
namespace PromqlVerif.C07
open PromqlVerif Val

variable {V : Type} [Val V]

/-- the leaf operators enumerate exactly the step grid, whatever the step count and batch size -/
theorem cursor_enumerates_grid (w : Window) (hs : 0 < w.step) (hle : w.start ≤ w.stop) (B : Nat) (hB : 0 < B) :
    (leafStream w (numStepsBatch w B) w.numSteps w.start).flatten = w.grid :=
  leaf_stream_is_grid w hs hle B hB

/-- no batch exceeds the batch size -/
theorem batches_bounded (w : Window) (B : Nat) (hB : 0 < B) (fuel : Nat) (cur : Int) :
    ∀ b ∈ leafStream w (numStepsBatch w B) fuel cur, b.length ≤ B :=
  fun b hb => Nat.le_trans (leaf_batches_le w _ fuel cur b hb) (numStepsBatch_le w B hB)

/-- an instant query is a range query with one step -/
theorem instant_is_one_step (w : Window) (hs : w.step ≤ 0) (he : w.stop = w.start) (B : Nat) :
    leafStream w (numStepsBatch w B) 2 w.start = [[w.start]] := by
  have hn : numStepsBatch w B = 1 := by simp [numStepsBatch, hs]
  simp only [hn, leafStream, leafBatch, he, Int.lt_irrefl, hs, if_true, if_false, gt_iff_lt, walk, Int.le_refl]
  rw [if_pos (by omega)]

/-- every grid timestamp is `start + k*step` within `[start, end]`, strictly increasing -/
theorem grid_points (w : Window) (hs : 0 < w.step) (x : Int) (hx : x ∈ w.grid) :
    w.start ≤ x ∧ x ≤ w.stop ∧ ∃ k : Nat, x = w.start + k * w.step := by
  rw [w.grid_eq_walk hs] at hx
  obtain ⟨h1, h2, k, _, hk⟩ := walk_mem w.stop w.step (Int.le_of_lt hs) _ _ x hx
  exact ⟨h1, h2, k, hk⟩

theorem grid_strictly_increasing (w : Window) (hs : 0 < w.step) : w.grid.Pairwise (· < ·) :=
  w.grid_pairwise_lt hs

/-- **the reference semantics of a range is the per-step semantics mapped over the grid**:
evaluating over a grid split in two (e.g. at a batch boundary, or into a sub-window) is the
concatenation of the evaluations - the value at a timestamp does not depend on the window's
end, its length or the position of the step in the grid (the start matters only through
`@`-pinned and step-invariant parts, `c.start`) -/
theorem evalGrid_append (c : Ctx V) (g1 g2 : List Int) (e : Expr V) :
    evalGrid c (g1 ++ g2) e = (do
      let r1 ← evalGrid c g1 e
      let r2 ← evalGrid c g2 e
      pure (r1 ++ r2)) :=
  List.mapM_append

/-- the engine's result assembly reads, for series `i` at step `t`, exactly what the operator
emitted for `i` at `t` -/
theorem collect_singleton (o : OpSem V) (t : Int) (xs : IdVec V) (h : o.step t = .ok xs) :
    engCollect o [t] = .ok ((enum o.series).map fun (i, ls) =>
      (ls, ([(t, xs)] : List (Int × IdVec V)).filterMap fun (t, xs) => (xs.find? (·.1 == i)).map fun x => (t, x.2))) := by
  simp only [engCollect, List.mapM_cons, List.mapM_nil, h]
  rfl

/-- **the point of a range query at `t` is the result of an instant query at `t`** (reference
semantics). A range query evaluates every step with `start` = the first step of its window, an
instant query at `t` with `start = t`; the window start enters the semantics only through
step-invariant wrappers (evaluated at `start`) and through the offset fix-up of `@`-pinned
selectors (relative to `start`). For every preprocessed expression (`WP`: unpinned selectors
outside wrappers; inside a wrapper every selector pinned and no `time()` / `timestamp()` - what
`PreprocessExpr` produces for a query without `start()` / `end()`, whose pinned timestamps would
otherwise differ between the two windows), every storage and every two window starts, the value at
`t` is the same. Hence it does not depend on the window's start, length, or step count either. -/
theorem range_point_is_instant_result (c : Ctx V) (e : Expr V) (hwp : WP e) (start t : Int) :
    eval { c with start := start } t e = eval { c with start := t } t e :=
  wp_inv c start t e hwp t

/-- **... and so it is for the engine**: on the verified fragment (Theorem B) the operator tree
built for the range window and the one built for the instant query at `t` emit, at `t`, the same
labelled vector - both are the reference value, which does not depend on the window start -/
theorem engine_range_point_is_instant_result (c : Ctx V) (hq : c.q.noDupCheck = true) (e : Expr V)
    (hf : Frag false e) (hwp : WP e) (start t : Int) :
    ∃ oR oI xsR xsI, engOp { c with start := start } e = .ok oR ∧ engOp { c with start := t } e = .ok oI ∧
      oR.step t = .ok xsR ∧ oI.step t = .ok xsI ∧ denote oR.series xsR = denote oI.series xsI := by
  obtain ⟨oR, hoR, _, hR⟩ := frag_inv { c with start := start } hq false e hf
  obtain ⟨oI, hoI, _, hI⟩ := frag_inv { c with start := t } hq false e hf
  obtain ⟨xsR, h1, _, h2⟩ := hR t
  obtain ⟨xsI, h3, _, h4⟩ := hI t
  simp only [Bool.false_eq_true, if_false] at h2 h4
  refine ⟨oR, oI, xsR, xsI, hoR, hoI, h1, h3, ?_⟩
  have := range_point_is_instant_result c e hwp start t
  rw [h2, h4] at this
  exact Value.vec.inj (Except.ok.inj this)

/-- the same through aggregations and vector matching (Theorem B up to order): the two step vectors
are permutations of each other -/
theorem engine_range_point_is_instant_result_up_to_order (c : Ctx V) (hq : c.q.noDupCheck = true) (e : Expr V)
    (start t : Int) (hfR : FragP { c with start := start } e) (hfI : FragP { c with start := t } e) (hwp : WP e) :
    ∃ oR oI xsR xsI, engOp { c with start := start } e = .ok oR ∧ engOp { c with start := t } e = .ok oI ∧
      oR.step t = .ok xsR ∧ oI.step t = .ok xsI ∧ (denote oR.series xsR).Perm (denote oI.series xsI) := by
  obtain ⟨oR, hoR, hR⟩ := fragP_inv { c with start := start } hq e hfR
  obtain ⟨oI, hoI, hI⟩ := fragP_inv { c with start := t } hq e hfI
  obtain ⟨xsR, outR, h1, h2, p1⟩ := hR t
  obtain ⟨xsI, outI, h3, h4, p2⟩ := hI t
  refine ⟨oR, oI, xsR, xsI, hoR, hoI, h1, h3, ?_⟩
  have := range_point_is_instant_result c e hwp start t
  rw [h2, h4] at this
  have heq : outR = outI := Value.vec.inj (Except.ok.inj this)
  subst heq
  exact p1.trans p2.symm

/-- an expression the theorem applies to: `rate(m[5m] @ 1000) + n offset 1m` after preprocessing -/
example :
    WP (.bin "+" false ⟨.oneToOne, false, [], []⟩
      (.stepInv (.call "rate" [.msel { matchers := [⟨.eq, "__name__", "m"⟩], origOffset := 0, atTs := some 1000000 } 300000]))
      (.vsel { matchers := [⟨.eq, "__name__", "n"⟩], origOffset := 60000, atTs := none }) : Expr V) :=
  ⟨⟨by decide, by decide, rfl, trivial⟩, rfl⟩

/-! ### where the law fails - in the reference engine and, following it, in this one

`PreprocessExpr` (Prometheus' own, which the engine calls) decides whether an aggregation is step
invariant by looking at the aggregated expression only, not at the parameter. `topk(scalar(n), m @ 0)`
is therefore wrapped as a whole, evaluated once at the window start and replicated - with the
parameter as it was at the start. `WP` excludes it (an unpinned selector inside a wrapper); the
theorem above does not apply, and the statement is false: -/

def movingParamCtx (start : Int) : Ctx Int :=
  { st := [⟨[⟨"__name__", "m"⟩, ⟨"a", "x"⟩], [⟨0, .num 5⟩]⟩, ⟨[⟨"__name__", "m"⟩, ⟨"a", "y"⟩], [⟨0, .num 7⟩]⟩,
           ⟨[⟨"__name__", "n"⟩], [⟨0, .num 1⟩, ⟨60000, .num 2⟩]⟩],
    lookback := 30000, start := start }

/-- `topk(scalar(n), m @ 0)` as `PreprocessExpr` leaves it -/
def movingParamExpr : Expr Int :=
  .stepInv (.aggP "topk" false [] (.call "scalar" [.vsel ⟨[⟨.eq, "__name__", "n"⟩], 0, none, none⟩])
    (.vsel ⟨[⟨.eq, "__name__", "m"⟩], 0, some 0, none⟩))

/-- **the point at `t = 60s` of the range query starting at 0 has one series (`k` = `n` at the
window start = 1), the instant query at 60s has two (`k` = 2)** - reference semantics; the engine
agrees with the reference on both (C01), so its range query is not the sequence of its instant
queries here (known finding KF-stepinvariant-moving-param) -/
theorem range_point_is_not_instant_result_under_a_moving_parameter :
    ((eval (movingParamCtx 0) 60000 movingParamExpr).toOption.map fun v =>
        match v with | .vec v => v.length | .scal _ => 0) = some 1 ∧
    ((eval (movingParamCtx 60000) 60000 movingParamExpr).toOption.map fun v =>
        match v with | .vec v => v.length | .scal _ => 0) = some 2 := by
  decide +kernel

open Streams in
/-- **what a step of a range query carries does not depend on the batch size, the number of steps
or where the step falls inside a batch.** For every plan tree of the engine's pull patterns whose
leaves share the window, the concatenation of the batches the root delivers in `numSteps` calls of
`Next` is the step grid of the window, each step carrying the per-step denotation `den p t` - the
same function of `t` alone that an instant query at `t` (a window of one step) evaluates. Together
with `cursor_enumerates_grid` (the selectors' own batching) this is the operational half of the
property; the semantic half (the per-step value does not depend on the window's start) is
`TheoremP` / `StartInv` above. -/
theorem batches_concatenate_to_the_grid {α : Type} (d0 : α) (w : Window) (hs : 0 < w.step) (hle : w.start ≤ w.stop)
    (B : Nat) (hB : 0 < B) (p : Plan α) (hal : Al ⟨w.step, B⟩ w.stop w.start p) :
    ((run ⟨w.step, B⟩ w.numSteps p).filterMap id).flatten = w.grid.map fun t => (t, den d0 p t) :=
  run_is_grid d0 w hs hle B hB p hal _ (Nat.le_mul_of_pos_right _ hB)

open Streams in
/-- two batch sizes, one plan: the same stream of (timestamp, value) pairs (26 steps; batches of 10
and of 3; the selector-like leaf uses `numStepsBatch`) -/
example :
    let w : Window := ⟨0, 25, 1⟩
    let mk := fun (B : Nat) => (Plan.zip (fun _ _ a b => a * b) (.leaf (fun t => t) 25 0 (numStepsBatch w B))
      (.map (fun _ a => a + 1) (.leaf (fun t => 2 * t) 25 0 B)) : Plan Int)
    ((run ⟨1, 10⟩ 26 (mk 10)).filterMap id).flatten = ((run ⟨1, 3⟩ 26 (mk 3)).filterMap id).flatten := by
  decide +kernel

end PromqlVerif.C07
