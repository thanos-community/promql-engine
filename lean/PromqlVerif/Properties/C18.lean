/-
C18 - every operator honours the stream contract its consumers rely on. The ID half of the
contract is proven for every operator of every plan over the natively supported constructs
(`plan_contract`, by induction over the typing derivation); the batching half for the leaf cursor
and, batch by batch, for every operator of a plan whose leaves share the query window (the pull
model of `Streams.lean`); end of stream stays ended and no concurrent Next are also
checked on the real code by the verif-tag wrapper at every Series/Next.
-/
import PromqlVerif.Proofs.PlanContract
import PromqlVerif.Proofs.Grid
import PromqlVerif.Proofs.CoalesceProof
import PromqlVerif.Proofs.StreamsProof
import PromqlVerif.Gen.Facts
namespace PromqlVerif.C18
open PromqlVerif Val

variable {V : Type} [Val V]

/-- **every operator of every plan**: for every well-typed expression over the natively supported
constructs (selectors, range and instant functions, aggregations with parameters, topk/bottomk,
scalar and vector binary operators with any matching, histogram_quantile, timestamp, clamp,
scalar()/vector(), unary operators, @-pinned parts), every storage, window and lookback: the
operator built for it emits at every step sample IDs that index its series list and are pairwise
distinct, and a scalar-typed operator has exactly one series. Every sub-expression is itself such
an expression, so this is a statement about every operator instance in the plan. -/
theorem every_operator_honours_id_contract {P : Matching → Prop} (c : Ctx V) (b : Bool) (e : Expr V) (h : WT P b e) (o : OpSem V)
    (ho : engOp c e = .ok o) :
    (∀ t xs, o.step t = .ok xs → (∀ x ∈ xs, x.1 < o.series.length) ∧ (xs.map (·.1)).Pairwise (· ≠ ·)) ∧
      (b = true → o.series.length = 1) := ⟨(plan_contract c b e h o ho).1, (plan_contract c b e h o ho).2.1⟩

/-- the premises are satisfiable by a plan that goes through the join, a grouped aggregation, a
k-aggregation with a per-step parameter and a pinned selector -/
example : WT (V := Int) (fun _ => True) false
    (.bin "/" false ⟨.manyToOne, true, ["a"], ["b"]⟩
      (.agg "sum" false ["a"] (.call "rate" [.msel ⟨[], 0, none, none⟩ 300000]))
      (.aggP "topk" true ["c"] (.call "scalar" [.vsel ⟨[], 0, none, none⟩])
        (.stepInv (.vsel ⟨[], 60000, some 1000, none⟩)))) :=
  WT.bin "/" false _ false false _ _ (fun _ _ => trivial)
    (WT.agg "sum" false ["a"] _ (WT.rangefn "rate" _ _ (by decide)))
    (WT.aggP "topk" true ["c"] _ _ (WT.scalar _ (WT.vsel _))
      (WT.stepInv false _ (by intro v h; cases h) (WT.vsel _)))

/-- topk / bottomk return input samples: a group's selection plus what it dropped is a
rearrangement of the group's samples (nothing invented, nothing emitted twice) - for the
engine's bounded heap, every k and every arrival order -/
theorem topk_keeps_input_samples {α : Type} (top : Bool) (k : Nat) (items : List (α × V)) :
    ∃ dropped, (kSelect top k items ++ dropped).Perm items := kSelect_perm top k items

/-- the static join tables only ever point at outputs that exist, and two series of the "many"
side never share an output series -/
theorem join_tables_index_outputs (m : Matching) (keepName : Bool) (high low : List Labels) :
    JOk (engJoin m keepName high low) := engJoin_ok m keepName high low

theorem selector_contract (c : Ctx V) (s : VSel) (ts : Bool) : Contract (engSelector c s ts) :=
  contract_selector c s ts

theorem rangefn_contract (c : Ctx V) (fn : String) (s : VSel) (r : Int) : Contract (engRangeFn c fn s r) :=
  contract_rangefn c fn s r

/-- re-basing by the shard offset keeps IDs inside the concatenated series list -/
theorem rebase_in_range {β : Type} (pre n : Nat) (xs : List (Nat × β)) (h : ∀ x ∈ xs, x.1 < n) :
    ∀ x ∈ rebase pre xs, pre ≤ x.1 ∧ x.1 < pre + n := rebase_range pre n xs h

/-- batches carry at most the batch size of step vectors, one per step, in increasing step order -/
theorem batches_bounded (w : Window) (B : Nat) (hB : 0 < B) (fuel : Nat) (cur : Int) :
    ∀ b ∈ leafStream w (numStepsBatch w B) fuel cur, b.length ≤ B :=
  fun b hb => Nat.le_trans (leaf_batches_le w _ fuel cur b hb) (numStepsBatch_le w B hB)

theorem steps_in_order (w : Window) (hs : 0 < w.step) (hle : w.start ≤ w.stop) (B : Nat) (hB : 0 < B) :
    ((leafStream w (numStepsBatch w B) w.numSteps w.start).flatten).Pairwise (· < ·) := by
  rw [leaf_stream_is_grid w hs hle B hB]
  exact w.grid_pairwise_lt hs

/-- **the coalesce operator keeps the ID contract, for every order of arrival**: if every child's
batch carries IDs below its number of series, pairwise distinct within a step, and the children's
offsets give them disjoint ranges (`coalesce_offsets_disjoint`: what `loadSeries` computes does),
then every step vector of the merged batch carries pairwise distinct IDs, each inside the range
of one child - hence below the length of the concatenated series list. -/
theorem coalesce_keeps_id_contract {V : Type} (ts : List Int) (hts : ts ≠ [])
    (as : List ((Nat × List (SV V)) × Nat)) (hne : as ≠ [])
    (hal : AlignedArrivals ts (as.map (·.1))) (hr : ∀ a ∈ as, Ranged a.1 a.2) (hd : DisjointRanges as) :
    ∃ out, coalesceNext ((as.map (·.1)).map fun a => (a.1, some a.2)) = .ok (some out) ∧
      out.map (·.1) = ts ∧
      ∀ sv ∈ out, (sv.2.map (·.1)).Nodup ∧
        ∀ id ∈ sv.2.map (·.1), ∃ a ∈ as, a.1.1 ≤ id ∧ id < a.1.1 + a.2 :=
  ⟨_, coalesceNext_spec ts hts _ hal (mt List.map_eq_nil_iff.mp hne), mergedSpec_ts ts _,
    merged_ids ts as hr hd⟩

theorem coalesce_offsets_disjoint (sizes : List Nat) (i j : Nat) (hij : i < j) (hj : j < sizes.length) :
    (offsetsOf sizes).getD i 0 + sizes.getD i 0 ≤ (offsetsOf sizes).getD j 0 := by
  have hi : i < sizes.length := by omega
  simp only [offsetsOf, List.getD_eq_getElem?_getD, List.getElem?_map, List.getElem?_range hi, List.getElem?_range hj,
    Option.map_some, Option.getD_some]
  have := offsets_disjoint sizes i j hij hj
  simpa [List.getD_eq_getElem?_getD] using this

/-- **end of stream is final for a leaf**: once the cursor is past the window's end, `Next` returns
nothing now and on every later call (the cursor does not move any more) -/
theorem leaf_end_of_stream_is_final (w : Window) (n : Nat) (cur : Int) (h : cur > w.stop) :
    ∀ fuel, leafStream w n fuel cur = [] :=
  fun fuel => leafStream_ended w n fuel cur h

open Streams in
/-- **pull execution is the per-step semantics, for every operator of every plan.** A plan is a
tree of the engine's pull patterns (leaf with its own cursor; one child step by step; two children
paired by position, ending when either ends; vector child plus a scalar child that is only pulled
when the vector child delivered; coalesce; the step-invariant cache). If its leaves share the query
window (`Al k stop cur`), then the `i`-th call of `Next` of the root - and, since the statement is by
induction over the tree, of every operator inside - returns exactly the batch the per-step
denotation prescribes at cursor `cur + step * B * i`: one step vector per step of the grid, in step
order, at most `B` per batch, each carrying `den p t`. In particular siblings are aligned position
by position, so the engine's positional pairing (`lhs[i]` with `rhs[i]`, `scalars[i]` for the
i-th vector, `out[i]` in the coalesce) pairs step vectors of the same timestamp and never indexes
out of range. -/
theorem pull_execution_is_per_step_semantics {α : Type} (d0 : α) (k : Cfg) (hs : 0 < k.step) (hB : 0 < k.B)
    (n : Nat) (p : Plan α) (stop cur : Int) (hal : Al k stop cur p) :
    run k n p = (List.range n).map fun (i : Nat) => out k stop (cur + k.step * k.B * (i : Int)) (den d0 p) :=
  run_spec d0 k hs hB n p stop cur hal

open Streams in
/-- one call: the batch, the successor plan aligned at the next cursor, the denotation unchanged -/
theorem next_returns_the_prescribed_batch {α : Type} (d0 : α) (k : Cfg) (hs : 0 < k.step) (hB : 0 < k.B)
    (p : Plan α) (stop cur : Int) (hal : Al k stop cur p) :
    (next k p).1 = out k stop cur (den d0 p) ∧ Al k stop (cur + k.step * k.B) (next k p).2 ∧
      den d0 (next k p).2 = den d0 p :=
  next_spec d0 k hs hB p stop cur hal

open Streams in
/-- **end of stream is final for every operator of every plan** (not only for the leaves): once the
window's cursor is past the end every later `Next` returns nil - also for a child that was not
pulled when its sibling ended first -/
theorem end_of_stream_is_final_everywhere {α : Type} (d0 : α) (k : Cfg) (hs : 0 < k.step) (hB : 0 < k.B)
    (n : Nat) (p : Plan α) (stop cur : Int) (hal : Al k stop cur p) (hend : stop < cur) :
    ∀ o ∈ run k n p, o = none := by
  rw [run_ended k n p stop cur hal hend]
  exact fun o ho => (List.mem_replicate.mp ho).2

open Streams in
/-- every batch of every operator: at most the batch size, nothing past the window's end -/
theorem every_batch_bounded {α : Type} (d0 : α) (k : Cfg) (hs : 0 < k.step) (hB : 0 < k.B)
    (n : Nat) (p : Plan α) (stop cur : Int) (hal : Al k stop cur p) :
    ∀ b, some b ∈ run k n p → b.length ≤ k.B ∧ ∀ x ∈ b, x.1 ≤ stop := by
  rw [run_spec d0 k hs hB n p stop cur hal]
  intro b hb
  obtain ⟨i, _, hi⟩ := List.mem_map.mp hb
  exact out_some k hs stop _ _ b hi

open Streams in
/-- non-vacuity: `(m + clamp_min(-n, s @ 7)) ` as a plan over the window 0..25 (step 1, batches of
10) is aligned, and delivers 10, 10 and 6 step vectors, then nil twice -/
example :
    let p : Plan Int := .zip (fun _ _ a b => a + b) (.leaf (fun t => t) 25 0 10)
      (.fn true (fun _ a s => max a (s.getD 0)) (.map (fun _ a => -a) (.leaf (fun t => 2 * t) 25 0 10))
        (.inv 25 0 none 0 7 (.leaf (fun t => 100 + t) 7 7 1)))
    Al ⟨1, 10⟩ 25 0 p ∧ (run ⟨1, 10⟩ 5 p).map (fun o => o.map List.length) = [some 10, some 10, some 6, none, none] ∧
      (run ⟨1, 10⟩ 1 p).head? = some (some ((List.range 10).map fun (i : Nat) => ((i : Int), (i : Int) + max (-(2 * (i : Int))) 107))) := by
  refine ⟨by simp [Al, At], by decide +kernel, by decide +kernel⟩

open Streams in
/-- what the alignment hypothesis excludes: a leaf that stands one batch ahead of its sibling (a
child pulled once too often) - the binary operator then pairs step vectors of different timestamps
by position -/
example :
    let p : Plan Int := .zip (fun _ _ a b => a - b) (.leaf (fun t => t) 25 0 10) (.leaf (fun t => t) 25 10 10)
    (run ⟨1, 10⟩ 1 p).head? = some (some ((List.range 10).map fun (i : Nat) => ((i : Int), (-10 : Int)))) := by
  decide +kernel

open Streams in
/-- **the selectors' own batching (`Options.NumSteps()`) keeps them aligned with the operators that
use the batch size** (literals, `time()`, the step-invariant operator): a leaf at the window's
start with `numStepsBatch w B` steps per batch satisfies the alignment hypothesis - it is the batch
size, or the total number of steps, in which case the first batch finishes the window. The formula
is compared with the real `Options.NumSteps()` (windows with sub-millisecond parts included) by the
`kpull` correspondence. -/
theorem selector_batching_is_aligned {α : Type} (w : Window) (hs : 0 < w.step) (hle : w.start ≤ w.stop)
    (B : Nat) (f : Int → α) :
    Al ⟨w.step, B⟩ w.stop w.start (.leaf f w.stop w.start (numStepsBatch w B)) := by
  refine ⟨rfl, Or.inl rfl, ?_⟩
  simp only [numStepsBatch, Int.not_le.mpr hs, if_false]
  by_cases hb : B ≤ w.numSteps
  · exact Or.inl (Nat.min_eq_left hb)
  · rw [Nat.min_eq_right (by omega), Int.mul_comm]
    exact Or.inr ⟨by omega, numSteps_passes_end w hs hle⟩

open Streams in
/-- what a wrong step count does (6 steps 0..5, batches of 10, a selector that believes there are
5): the selector needs two batches where the literal needs one, and the binary operator pairs the
selector's second batch with nothing - the last step is lost -/
example :
    let p : Plan Int := .zip (fun _ _ a b => a + b) (.leaf (fun t => t) 5 0 5) (.leaf (fun _ => 100) 5 0 10)
    (run ⟨1, 10⟩ 3 p).map (fun o => o.map List.length) = [some 5, none, none] := by decide +kernel

/-- **the operators of one plan share one window** (regenerated from the source): every argument of
every call in `execution/execution.go` that mentions the query's options is the options value
itself, the options with `End := Start` (below a step-invariant operator: the one-step window of
the `inv` node), or one of the window's fields handed to a remote query; `WithEndTime` copies the
options and overwrites `End` only; and `NumSteps()` reads the millisecond values the cursors walk
on. Nothing else is handed down, so every leaf of a plan starts at `opts.Start` on the same grid:
the alignment hypothesis `Al` of the theorems above holds for the plans `execution.New` builds. -/
theorem operators_share_the_query_window :
    (Gen.optsArgs.all fun a => ["opts", "opts.WithEndTime(opts.Start)", "opts.Start", "opts.End", "opts.Step",
      "opts.Step.Milliseconds()", "&promql.QueryOpts{LookbackDelta: opts.LookbackDelta}"].contains a) = true ∧
    Gen.withEndTimeWrites = ["result := *o", "result.End = end"] ∧
    Gen.numStepsReads = ["o.End.UnixMilli", "o.Start.UnixMilli", "o.Step.Milliseconds", "o.StepsBatch"] := by
  decide +kernel

end PromqlVerif.C18
