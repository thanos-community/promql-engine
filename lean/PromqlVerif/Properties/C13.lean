/-
C13 - no query can crash the host process (partial).
-/
import PromqlVerif.LTS.ConcurrentThms
import PromqlVerif.LTS.WorkerThms
import PromqlVerif.Proofs.EngInd
import PromqlVerif.Proofs.Agg
import PromqlVerif.Proofs.StreamsProof
namespace PromqlVerif.C13
open PromqlVerif Val

/-- every goroutine the engine starts and that can run storage callbacks or operator code of
a query has a deferred recover (regenerated): the exceptions are the drain goroutine, which
only receives from a channel, and the workers, which run the engine's own per-step tasks -/
theorem goroutines_recover :
    Gen.goSites.all (fun s => s.2.2 || ["c.drainBufferOnCancel", "w.start"].contains s.2.1) = true := by
  decide +kernel

/-- the goroutine that calls `Exec` recovers, and converts every panic value into the query's error -/
theorem exec_recovers : Gen.execRecovers = true ∧ Gen.recoverEngineHasDefault = true := by decide

/-- with the recover in place a panic raised below a pull goroutine never kills the process,
for every schedule; without it, it does -/
theorem pull_panic_is_contained :
    ∀ s, LTS.Reach (LTS.Concurrent.sys LTS.Concurrent.feat) s → LTS.Concurrent.noCrash s = true :=
  LTS.Concurrent.no_crash

theorem pull_panic_kills_without_recover :
    (LTS.Concurrent.explored { LTS.Concurrent.feat with recovers := false }).all LTS.Concurrent.noCrash = false :=
  LTS.Concurrent.crash_without_recover

/-- the worker group never sends on a closed channel and never closes a channel twice, whenever
the context is cancelled (both are process-killing panics in goroutines without recover) -/
theorem worker_group_no_channel_misuse :
    ∀ s, LTS.Reach (LTS.Worker.sys LTS.Worker.feat) s → LTS.Worker.noCrash s = true :=
  LTS.Worker.no_crash

variable {V : Type} [Val V]

/-- invalid runtime parameters are values or errors, never a panic: `k < 1` selects nothing,
NaN / out-of-range `k` is the query's error (model of `kAggregate.Next`) -/
theorem invalid_k_is_handled (top w : Bool) (g : List String) (p : V) (v : Vec V) :
    (inInt64 p = false → aggregate (if top then "topk" else "bottomk") w g p v = .error .badParam) ∧
    (inInt64 p = true → toInt p < 1 → aggregate (if top then "topk" else "bottomk") w g p v = .ok []) :=
  ⟨topk_bad_param top w g p v, topk_nonpositive top w g p v⟩

/-- planning never fails with anything but "unsupported" -/
theorem planning_total (c : Ctx V) (e : Expr V) (er : Err) (h : engOp c e = .error er) : er = .unsupported :=
  engOp_err c e er h

/-! ### data-dependent indexing between operators (`Streams.lean`) -/

open Streams in
/-- **the operators' unchecked positional indexing never leaves its range.** The function operator
reads `scalars[i]` for the i-th vector of a batch, the coalesce appends a child's i-th vector to
`out[i]` (sized by whichever child arrived first), unary minus and the aggregations hand vector
`i` to `workers[i]` - none of them checks the index, and a violation is a runtime panic on
whichever goroutine runs that `Next`. For every plan tree whose leaves share the query window, and
every number of calls, all these indices are in range (`runSafe`): a consequence of the alignment
theorem of C18 - siblings deliver batches of the same length, at most `B` long. Tied to the code by
the `kpull` correspondence (the real operators over scripted children). -/
theorem positional_indexing_in_range {α : Type} (d0 : α) (k : Cfg) (hs : 0 < k.step) (hB : 0 < k.B)
    (n : Nat) (p : Plan α) (stop cur : Int) (hal : Al k stop cur p) : runSafe k n p = true :=
  aligned_run_safe d0 k hs hB n p stop cur hal

open Streams in
/-- the hypothesis is what keeps it safe: with the scalar child one batch ahead of the vector child
near the end of the window (26 steps, batches of 10: the vector child delivers 10 vectors, the
scalar child its last 6) `scalars[6]` does not exist -/
example :
    let p : Plan Int := .fn true (fun _ a s => max a (s.getD 0)) (.leaf (fun t => t) 25 10 10) (.leaf (fun t => t) 25 20 10)
    safeNow ⟨1, 10⟩ p = false := by decide

open Streams in
/-- and an aligned plan of the same shape is safe at every call -/
example :
    let p : Plan Int := .fn true (fun _ a s => max a (s.getD 0)) (.leaf (fun t => t) 25 0 10) (.leaf (fun t => t) 25 0 10)
    Al ⟨1, 10⟩ 25 0 p ∧ runSafe ⟨1, 10⟩ 5 p = true := by
  refine ⟨by simp [Al, At], by decide⟩

end PromqlVerif.C13
