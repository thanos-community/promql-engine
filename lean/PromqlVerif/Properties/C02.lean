/-
C02 - instant-vector selection honours lookback, staleness, offset and @, however steps are
batched and series are sharded.
-/
import PromqlVerif.Proofs.Den
import PromqlVerif.Proofs.Grid
import PromqlVerif.Proofs.SelOpProof
import PromqlVerif.Proofs.ShardProof
namespace PromqlVerif.C02
open PromqlVerif Val

variable {V : Type} [Val V]

/-- the engine's selector operator, read through its series list, is the reference selection -
for every storage, matcher set, lookback, offset / @ and step time -/
theorem selector_is_reference (c : Ctx V) (s : VSel) (t : Int) :
    (engSelector c s false).den t = .ok (selectV c s t) := engSelector_den c s t

/-- what the reference selection yields for one series: the latest sample at or before the
reference time ... -/
theorem selectSample_some_iff (lookback ref : Int) (ss : List (Sample V)) (t : Int) (v : V) :
    selectSample lookback ref ss = some (t, v) ↔
      latestAtOrBefore ss ref = some ⟨t, .num v⟩ ∧ ref - lookback ≤ t := pick_eq_some

/-- ... a sample whose age is exactly the lookback delta is still selected, one millisecond
older is not -/
theorem lookback_boundary (lookback ref : Int) (v : V) (hl : 0 ≤ lookback) :
    selectSample lookback ref [⟨ref - lookback, .num v⟩] = some (ref - lookback, v) ∧
    selectSample lookback ref [⟨ref - lookback - 1, .num v⟩] = none := by
  constructor
  · have h1 : ref - lookback ≤ ref := by omega
    simp [selectSample, latestAtOrBefore, h1]
  · have h1 : ref - lookback - 1 ≤ ref := by omega
    have h2 : ref - lookback - 1 < ref - lookback := by omega
    simp [selectSample, latestAtOrBefore, h1, h2]

/-- a staleness marker as the latest sample yields nothing, even if an older sample is in range -/
theorem stale_marker_hides_series (lookback ref t0 : Int) (v : V) (h0 : t0 < ref) :
    selectSample lookback ref [⟨t0, .num v⟩, ⟨ref, (.stale : SVal V)⟩] = none := by
  have h1 : t0 ≤ ref := by omega
  simp [selectSample, latestAtOrBefore, h1]

/-- the engine's per-series scan - `selectPoint` driving Prometheus' `MemoizedSeriesIterator`
through the step times of a query - returns at every step what the declarative selection
returns, for every sorted sample list, every lookback delta and every non-decreasing sequence of
reference times (any start, step, offset and @, any batching of the steps) -/
theorem memoized_scan_is_reference (S : List (Sample V)) (hs : SortedT S) (delta : Int) (hd : 0 ≤ delta)
    (refs : List Int) (hr : refs.Pairwise (· ≤ ·)) :
    selectPointsM delta (Memo.new S) refs = refs.map (fun r => selectSample delta r S) :=
  (selectPointsM_eq_runM delta refs _).trans
    (runM_spec S hs delta hd refs _ _ (minv_new S delta _) (head_le_of_pairwise hr) hr).1

theorem selector_step_eq (c : Ctx V) (s : VSel) (t : Int) :
    (engSelector c s false).step t =
      .ok (selectStep c.lookback ((matchingSeries c s).map (·.samples)) (t - s.offsetAt c.start)) := by
  simp only [engSelector, selectStep]
  rw [enum_map, List.filterMap_map]
  congr 1

/-- **the selector operator as it is written**: `vectorSelector.Next` keeps one memoized iterator
per series for the whole query and fills the step vectors of a batch series by series. Modelled
as written (`SelOp.lean`): for every storage with sorted series, every matcher set, lookback
`≥ 0`, offset / @, and every split of non-decreasing step times into batches, the stream of step
vectors it produces is the per-step selection `engSelector` is defined by. -/
theorem selector_operator_stream (c : Ctx V) (s : VSel) (hsorted : ∀ sr ∈ c.st, SortedT sr.samples)
    (hlb : 0 ≤ c.lookback) (batches : List (List Int)) (hmono : batches.flatten.Pairwise (· ≤ ·)) :
    (vsStream c.lookback (((matchingSeries c s).map (·.samples)).map Memo.new)
        (batches.map fun b => b.map fun t => t - s.offsetAt c.start)).map Except.ok =
      batches.flatten.map (engSelector c s false).step := by
  have hfl : (batches.map fun b => b.map fun t => t - s.offsetAt c.start).flatten =
      batches.flatten.map fun t => t - s.offsetAt c.start := List.map_flatten.symm
  rw [vsStream_spec c.lookback hlb _ ?_ _ ?_, hfl]
  · simp only [List.map_map]
    apply List.map_congr_left
    intro t _
    simp only [Function.comp]
    exact (selector_step_eq c s t).symm
  · intro sm hsm
    obtain ⟨sr, hsr, rfl⟩ := List.mem_map.mp hsm
    exact hsorted sr (List.mem_filter.mp hsr).1
  · rw [hfl]
    exact hmono.map _ (fun a b h => by omega)

/-- the leaf cursor protocol enumerates exactly the step grid, for every step count -/
theorem cursor_enumerates_grid (w : Window) (hs : 0 < w.step) (hle : w.start ≤ w.stop) (B : Nat) (hB : 0 < B) :
    (leafStream w (numStepsBatch w B) w.numSteps w.start).flatten = w.grid :=
  leaf_stream_is_grid w hs hle B hB

/-- sharding loses and duplicates no series, for every shard count -/
theorem shards_partition {α : Type} (l : List α) (n : Nat) (hn : 0 < n) :
    (List.range n).flatMap (fun i => seriesShard l i n) = l := shards_cover l n hn

/-- merging the shards in any completion order denotes the union of the shards' results -/
theorem merge_any_order {α β : Type} (cs : List (List α × List (Nat × β)))
    (h : ∀ c ∈ cs, ∀ x ∈ c.2, x.1 < c.1.length)
    (merged : List (List (Nat × β))) (hp : merged.Perm (coalesceVecs cs)) :
    (denote (coalesceSeries cs) merged.flatten).Perm ((cs.map fun c => denote c.1 c.2).flatten) :=
  coalesce_any_order cs h merged hp

/-- **sharding is transparent, as the operators are written**: the matching series split into
shards in any way (any shard count, empty shards), each shard's `vectorSelector` producing the
step vectors of one batch of reference times (`SelOp.lean`, proved equal to the per-step selection
by `selector_operator_stream`), and the shards' goroutines reaching the coalesce operator in any
order `arr` (`Coalesce.lean`): `Next` succeeds, the merged batch carries the step timestamps,
and every step vector is - up to the order of its samples - the selection over all the series at
that step, with IDs indexing the concatenated series list. -/
theorem sharded_selector_batch (lookback : Int) (stamp : Int → Int) (refs : List Int) (hrefs : refs ≠ [])
    (shards : List (List (List (Sample V)))) (hsh : shards ≠ [])
    (arr : List (Nat × List (List (Sample V))))
    (harr : arr.Perm ((offsetsOf (shards.map List.length)).zip shards)) :
    ∃ out, coalesceNext ((arr.map (shardArrival (fun s r => (selectSample lookback r s).map (·.2)) stamp refs)).map
        fun a => (a.1, some a.2)) = .ok (some out) ∧
      All2 (fun (sv : SV V) (r : Int) => sv.1 = stamp r ∧ sv.2.Perm (selectStep lookback shards.flatten r)) out refs := by
  rw [selectStep_eq_perStep]
  exact sharded_batch _ stamp refs hrefs shards hsh arr harr

/-- two shards arriving in reverse order -/
example : ∃ out, coalesceNext (([(1, [[⟨95, .num (2 : Int)⟩]]), (0, [[⟨50, .num 1⟩]])].map
      (shardArrival (fun s r => (selectSample 100 r s).map (·.2)) id [100])).map fun a => (a.1, some a.2)) = .ok (some out) ∧
    out = [(100, [(1, 2), (0, 1)])] := ⟨_, rfl, by decide⟩

/-- a concrete series with samples inside and outside the lookback range -/
example : selectSample 10 100 [⟨50, .num (1 : Int)⟩, ⟨95, .num 2⟩, ⟨120, .num 3⟩] = some (95, 2) := by decide

end PromqlVerif.C02
