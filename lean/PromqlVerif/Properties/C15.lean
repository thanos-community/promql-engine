/-
C15 - storage failures surface as query errors, never as partial results.
-/
import PromqlVerif.LTS.ConcurrentThms
import PromqlVerif.Loader
import PromqlVerif.Proofs.EngInd
import PromqlVerif.LTS.ForkJoinThms
namespace PromqlVerif.C15
open PromqlVerif Val

/-- the loader never succeeds on an incomplete series set: a success saw every series -/
theorem no_partial_load (avail n : Nat) (f : Loader.Faults) (h : (Loader.loadSeries avail f).1 = .ok n) : n = avail :=
  Loader.ok_is_complete avail n f h

/-- a failing querier and a failing series set fail the load -/
theorem querier_failure_surfaces (avail : Nat) : (Loader.loadSeries avail { querierFails := true }).1 = .err :=
  congrArg Prod.fst (Loader.querier_error_fails avail)

theorem set_failure_surfaces (avail k : Nat) (hk : k ≤ avail) :
    (Loader.loadSeries avail { setErrAfter := some k }).1 = .err := Loader.set_error_fails avail k hk

/-- across the pull goroutine an error of the child is what the consumer receives, never a clean
end of stream, for every schedule in which nobody cancels the query -/
theorem error_crosses_goroutines :
    ∀ s, LTS.Reach (LTS.Concurrent.sys LTS.Concurrent.featNoCancel) s → LTS.Concurrent.errorNotSwallowed s = true :=
  LTS.Concurrent.error_delivered_without_cancel

/-- the per-step semantics propagates errors of sub-expressions (`Except`): e.g. an error below
an aggregation is the aggregation's error -/
theorem error_propagates_through_agg {V : Type} [Val V] (c : Ctx V) (t : Int) (op : String) (w : Bool)
    (g : List String) (e : Expr V) (er : Err) (h : eval c t e = .error er) :
    eval c t (.agg op w g e) = .error er := by
  rw [eval, h]; rfl

/-- across the fork-join of the coalesce operator: if any child fails - in `Series` or in `Next`, by
error or by panic - the parent returns an error, for every interleaving of the children -/
theorem error_crosses_the_coalesce_fork_join :
    ∀ s, LTS.Reach (LTS.ForkJoin.sys LTS.ForkJoin.feat) s → LTS.ForkJoin.errorNotLost s = true :=
  LTS.ForkJoin.error_not_lost

/-! ### no operator of the engine turns a failing child step into a successful one

The engine model's operators, one by one: if the operator a node is built on fails at a step, so
does the node, with the same error - also through the step-invariant wrapper, which evaluates its
child once, at the window start (a seeded change made exactly that wrapper swallow the error of
its child; the fault oracle caught it, this is the statement it violated). -/

theorem neg_step_error {V : Type} [Val V] (c : Ctx V) (e : Expr V) (o o' : OpSem V) (t : Int) (er : Err)
    (h : engOp c (.neg e) = .ok o) (h' : engOp c e = .ok o') (hs : o'.step t = .error er) : o.step t = .error er := by
  rw [engOp, h'] at h
  cases h
  exact congrArg (Except.map _) hs

theorem stepInv_step_error {V : Type} [Val V] (c : Ctx V) (e : Expr V) (hn : ∀ v, e ≠ .num v) (o o' : OpSem V) (er : Err)
    (h : engOp c (.stepInv e) = .ok o) (h' : engOp c e = .ok o') (hs : o'.step c.start = .error er) :
    ∀ t, o.step t = .error er := by
  intro t
  rw [engOp_stepInv, h'] at h
  cases h
  exact hs

theorem agg_step_error {V : Type} [Val V] (op : String) (w : Bool) (g : List String) (param : Option (OpSem V))
    (child : OpSem V) (t : Int) (er : Err) (hs : child.step t = .error er) :
    (engAggregate op w g param child).step t = .error er := by
  unfold engAggregate
  split <;> simp [hs, bind, Except.bind]

theorem agg_param_error {V : Type} [Val V] (op : String) (w : Bool) (g : List String) (po child : OpSem V)
    (hnv : (!w && g.isEmpty && vectorizedAggs.contains op) = false)
    (t : Int) (er : Err) (xs : IdVec V) (hc : child.step t = .ok xs) (hs : po.step t = .error er) :
    (engAggregate op w g (some po) child).step t = .error er := by
  unfold engAggregate
  rw [if_neg (by rw [hnv]; exact Bool.false_ne_true)]
  simp only [hc, scalarOf, hs, bind, Except.bind]

theorem kagg_step_error {V : Type} [Val V] (top w : Bool) (g : List String) (po child : OpSem V) (t : Int) (er : Err)
    (hs : child.step t = .error er) : (engKAggregate top w g po child).step t = .error er := by
  unfold engKAggregate
  simp [hs, bind, Except.bind]

theorem vector_vector_step_error {V : Type} [Val V] (c : Ctx V) (op : String) (b : Bool) (m : Matching) (l r : Expr V)
    (hls : l.isScalar = false) (hrs : r.isScalar = false) (o lo ro : OpSem V) (t : Int) (er : Err)
    (h : engOp c (.bin op b m l r) = .ok o) (hl : engOp c l = .ok lo) (hr : engOp c r = .ok ro) :
    (lo.step t = .error er → o.step t = .error er) ∧
    (∀ xs, lo.step t = .ok xs → ro.step t = .error er → o.step t = .error er) := by
  rw [engOp_bin, hl, hr, hls, hrs] at h
  cases (ite_error_eq_ok.mp h).2
  constructor
  · intro hs; simp only [binOp, vvOp, hs]; rfl
  · intro xs hx hs; simp only [binOp, vvOp, hx, hs]; rfl

end PromqlVerif.C15
