/-
C04 - aggregations group, label and reduce exactly as the reference engine.
-/
import PromqlVerif.Proofs.Agg
import PromqlVerif.Proofs.TheoremB
import PromqlVerif.Proofs.EvalEqns
import PromqlVerif.Proofs.AccProof
import PromqlVerif.Proofs.HeapOrder
namespace PromqlVerif.C04
open PromqlVerif Val

variable {V : Type} [Val V]

/-- `without` never keeps the metric name or a listed label in the output labels -/
theorem without_labels (g : List String) (ls : Labels) :
    ∀ l ∈ groupLabels true g ls, l.name ≠ metricName ∧ l.name ∉ g := by
  intro l hl
  simp only [groupLabels, if_true, Labels.dropName, Labels.del, List.mem_filter] at hl
  obtain ⟨⟨_, h1⟩, h2⟩ := hl
  exact ⟨by simpa using h2, by simpa using h1⟩

/-- `by` keeps exactly the listed labels (the metric name only if listed) -/
theorem by_labels (g : List String) (ls : Labels) :
    ∀ l, l ∈ groupLabels false g ls ↔ l ∈ ls ∧ l.name ∈ g := by
  intro l
  simp [groupLabels, Labels.keep, List.mem_filter]

/-- series of one group share the output labels: the output labels are a function of the key -/
theorem key_determines_labels (w : Bool) (g : List String) (a b : Labels)
    (h : groupKey w g a = groupKey w g b) : groupLabels w g a = groupLabels w g b :=
  groupLabels_eq_key w g ▸ h

/-- non-positive `k` selects nothing -/
theorem topk_nonpositive (top : Bool) (w : Bool) (g : List String) (p : V) (v : Vec V)
    (hc : inInt64 p = true) (hk : toInt p < 1) :
    aggregate (if top then "topk" else "bottomk") w g p v = .ok [] :=
  PromqlVerif.topk_nonpositive top w g p v hc hk

/-- NaN or out-of-range `k` is the reference engine's error -/
theorem topk_bad_param (top : Bool) (w : Bool) (g : List String) (p : V) (v : Vec V)
    (hc : inInt64 p = false) :
    aggregate (if top then "topk" else "bottomk") w g p v = .error .badParam :=
  PromqlVerif.topk_bad_param top w g p v hc

/-- one output per non-empty group for the reducing aggregations -/
theorem one_output_per_group (op : String) (w : Bool) (g : List String) (p : V) (v : Vec V)
    (hop : (op == "topk" || op == "bottomk") = false) :
    ∃ out, aggregate op w g p v = .ok out ∧
      out.length = (groupBy (fun (x : Labels × V) => groupKey w g x.1) v).length := by
  exact ⟨_, aggregate_eq op w g p v hop, List.length_map _⟩

/-- the engine's `avg` is the reference's running mean from the first member on (`addToMean`, since
the repair of the overflowing `sum / count`), counting in the value type being what it is in `Nat` -/
theorem engReduce_avg_eq_reference (hl : CountLaw V) (hm : MeanLaw V) (p : V) (v0 : V) (rest : List V) :
    engReduce "avg" p (v0 :: rest) = aggReduce "avg" p (v0 :: rest) := engReduce_avg hl hm p v0 rest

theorem reduce_hyp_plain (op : String) (p : V) (h1 : op ≠ "sum") (h2 : op ≠ "avg") :
    ∀ vals : List V, vals ≠ [] → engReduce op p vals = aggReduce op p vals :=
  fun vals _ => engReduce_eq_reference op p vals h1 h2

theorem reduce_hyp_sum (p : V) (hzero : ∀ v : V, add (zero : V) v = v) :
    ∀ vals : List V, vals ≠ [] → engReduce "sum" p vals = aggReduce "sum" p vals := by
  intro vals hne
  obtain ⟨v0, rest, rfl⟩ := List.exists_cons_of_ne_nil hne
  exact engReduce_sum p v0 rest hzero

theorem reduce_hyp_avg (p : V) (hl : CountLaw V) (hm : MeanLaw V) :
    ∀ vals : List V, vals ≠ [] → engReduce "avg" p vals = aggReduce "avg" p vals := by
  intro vals hne
  obtain ⟨v0, rest, rfl⟩ := List.exists_cons_of_ne_nil hne
  exact engReduce_avg hl hm p v0 rest

/-- **the engine's scalar-table aggregation over any expression of the C01 fragment is the reference
aggregation, up to the order of the groups**: the engine forms the groups once from `Series()`,
the reference per step from the samples present; accumulators are fed in sample order in both.
For every grouping (`by`/`without`, any label list incl. absent labels and `__name__`), every
occupancy pattern and every scalar-table aggregator whose accumulator is the reference reduction
on non-empty groups (`hR`): `reduce_hyp_plain` discharges it for all but `sum`/`avg`,
`reduce_hyp_sum` for `sum` under `0 + v = v`, `reduce_hyp_avg` for `avg` under the counting laws. -/
theorem aggregation_over_fragment (c : Ctx V) (hq : c.q.noDupCheck = true) (op : String) (w : Bool)
    (g : List String) (e : Expr V) (he : Frag false e)
    (hacc : engineAccumulators.contains op = true)
    (hvec : (!w && g.isEmpty && vectorizedAggs.contains op) = false)
    (hR : ∀ vals : List V, vals ≠ [] → engReduce op nan vals = aggReduce op nan vals) :
    ∃ o, engOp c (.agg op w g e) = .ok o ∧
      ∀ t, ∃ ys out, o.step t = .ok ys ∧ eval c t (.agg op w g e) = .ok (.vec out) ∧
        (denote o.series ys).Perm out := by
  obtain ⟨child, hchild, _, hstep⟩ := frag_inv c hq false e he
  refine ⟨_, engOp_agg w g hacc hchild, fun t => ?_⟩
  obtain ⟨xs, hxs, hids, hval⟩ := hstep t
  obtain ⟨ys, out, hys, hspec, hperm⟩ :=
    agg_perm child op w g none t xs nan hxs hids hvec rfl (accumulator_not_k hacc) hR
  exact ⟨ys, out, hys, eval_agg c hq t op w g e _ out hval hspec, hperm⟩

/-- **the vectorized aggregation (no grouping: `sum(x)`, `max(x)`, ... over all series) over any
expression of the C01 fragment is the reference aggregation** - exactly, not only up to order:
one label-less output whenever the step has samples, with the reduction of all of them in sample
order; nothing otherwise. (`hR` as in `aggregation_over_fragment`.) -/
theorem vectorized_aggregation_over_fragment (c : Ctx V) (hq : c.q.noDupCheck = true) (op : String)
    (e : Expr V) (he : Frag false e) (hvecop : vectorizedAggs.contains op = true)
    (hR : ∀ vals : List V, vals ≠ [] → engReduce op nan vals = aggReduce op nan vals) :
    ∃ o, engOp c (.agg op false [] e) = .ok o ∧
      ∀ t, ∃ ys, o.step t = .ok ys ∧ eval c t (.agg op false [] e) = .ok (.vec (denote o.series ys)) := by
  obtain ⟨child, hchild, _, hstep⟩ := frag_inv c hq false e he
  have hacc : engineAccumulators.contains op = true :=
    List.all_eq_true.mp (by decide : vectorizedAggs.all engineAccumulators.contains = true) op
      (List.contains_iff_mem.mp hvecop)
  refine ⟨_, engOp_agg false [] hacc hchild, fun t => ?_⟩
  obtain ⟨xs, hxs, hids, hval⟩ := hstep t
  obtain ⟨ys, hys, hspec⟩ := vec_agg_step child op t xs hxs hids hvecop (accumulator_not_k hacc) hR
  exact ⟨ys, hys, eval_agg c hq t op false [] e _ _ hval hspec⟩

/-- the heap selection of topk/bottomk only ever returns members of the group -/
example : kSelect true 2 [("a", (1 : Int)), ("b", 5), ("c", 3), ("d", 4)] = [("d", 4), ("b", 5)] := by decide
example : kSelect false 1 [("a", (3 : Int)), ("b", 1), ("c", 2)] = [("b", 1)] := by decide

/-- the engine's bounded heap keeps exactly `min k n` samples of a group of `n` (`k ≥ 1`), for
every arrival order and whatever NaNs the group holds ... -/
theorem topk_keeps_min_k_n {α : Type} (top : Bool) (k : Nat) (hk : 1 ≤ k) (items : List (α × V)) :
    (kSelect top k items).length = min k items.length := kSelect_length top k hk items

/-- ... and they are samples of that group: the selection plus what was dropped is a rearrangement
of the group -/
theorem topk_keeps_group_samples {α : Type} (top : Bool) (k : Nat) (items : List (α × V)) :
    ∃ dropped, (kSelect top k items ++ dropped).Perm items := kSelect_perm top k items

/-- **the reused accumulators**: the hash aggregation creates one accumulator per group and per
position in the batch and reuses it for every batch (`Reset(arg)`, then `AddFunc` per member).
Modelled as written (`Acc.lean`): for every aggregation of the engine, whatever state earlier
batches left behind, every parameter and every member list, each step's output is the per-step
reduction `engReduce` - present iff the group has members - so nothing leaks from one batch
into the next. (`CountLaw`: counting in the value type agrees with counting in `Nat`.) -/
theorem reused_accumulators_are_per_step (hl : CountLaw V) (op : String)
    (hop : engineAccumulators.contains op = true) (a : Acc V) (steps : List (V × List V)) :
    Acc.runs op a steps = steps.map fun s => if s.2.isEmpty then none else some (engReduce op s.1 s.2) := by
  induction steps generalizing a with
  | nil => rfl
  | cons s rest ih =>
    simp only [Acc.runs, List.map_cons]
    rw [acc_run_eq op (fun _ => hl) hop a s.1 s.2, ih]

/-- the laws hold for exact arithmetic -/
example : CountLaw Int := by
  intro n
  show ((n : Int) + 1 : Int) = ((n + 1 : Nat) : Int)
  omega
example : MeanLaw Int := by
  intro n
  show (((n + 1 : Nat) : Int) == 1) = decide (n = 0)
  by_cases h : n = 0
  · subst h; rfl
  · simp only [h, decide_false]
    exact beq_false_of_ne (by omega)

/-- **topk / bottomk keep the extreme samples**: for a NaN-free group and a value order that is a
strict weak order, no sample the engine's bounded heap keeps is strictly smaller (topk; larger for
bottomk) than one it dropped - for every `k ≥ 1` and every arrival order. With
`topk_keeps_min_k_n` and `topk_keeps_group_samples`: the selection is the `k` largest / smallest
samples of the group, ties broken arbitrarily (which is also all the reference engine promises). -/
theorem topk_keeps_the_extremes {α : Type} {P : V → Prop} (L : LtLaws P) (top : Bool) (k : Nat) (hk : 1 ≤ k)
    (items : List (α × V)) (hitems : ∀ x ∈ items, P x.2 ∧ isNaN x.2 = false) :
    ∃ dropped, (kSelect top k items ++ dropped).Perm items ∧
      ∀ d ∈ dropped, ∀ y ∈ kSelect top k items, less top y.2 d.2 = false :=
  kSelect_extreme L top k hk items hitems

/-- the order laws hold for exact arithmetic -/
example : LtLaws (V := Int) (fun _ => True) where
  asymm := by
    intro a b _ _ h
    have h' : a < b := by simpa [Val.lt] using h
    simp [Val.lt]; omega
  negtrans := by
    intro a b c _ _ _ h1 h2
    have e1 : ¬ a < b := by simpa [Val.lt] using h1
    have e2 : ¬ b < c := by simpa [Val.lt] using h2
    simp [Val.lt]; omega

end PromqlVerif.C04
