/-
C09 - logical-plan optimizers never change a query's result.

The optimizers only rewrite the matcher lists of selectors (`Plan.lean`, tied to
`logicalplan/*.go` by the `plan` correspondence stream). A selector's meaning is the set of
series its matchers accept (`matchingSeries`), so the theorems are stated on `matchAll`:
for every regex table, every matcher type and every label set - in particular label sets
lacking any of the labels.
-/
import PromqlVerif.Proofs.Matchers
import PromqlVerif.Eng
import PromqlVerif.Proofs.OptSound
import PromqlVerif.Proofs.PropSound
namespace PromqlVerif.C09
open PromqlVerif

/-- SortMatchers: reordering the conjunction of matchers selects the same series. -/
theorem sort_matchers_sound (re : ReTab) (ms : List Matcher) (ls : Labels) :
    matchAll re (sortMatchers ms) ls = matchAll re ms ls :=
  matchAll_perm re (List.mergeSort_perm ms Matcher.le) ls

/-- MergeSelects: for whatever the matcher heap holds, the merged selector - broader select plus
in-engine filter - accepts exactly the series of the original selector. No guard is needed:
the defect with repeated label names (name-keyed subset test) was repaired in /repo
(`fix: select merging compares whole matchers ...`). -/
theorem merge_selects_sound {V : Type} (re : ReTab) (e : Expr V) (s : VSel) (ls : Labels) :
    matchAll re (mergeSel (buildHeap e) s).allMatchers ls = matchAll re s.allMatchers ls :=
  mergeSel_sound re (buildHeap e) s ls

/-- the in-engine filter of the merged selector is exactly `Matcher.sat` on every filter: a
series lacking the filtered label reads it as empty (this is what `execution/storage/filter.go`
does since `fix: the in-engine series filter evaluates every matcher ...`) -/
theorem filter_absent_label_is_empty (re : ReTab) (m : Matcher) (ls : Labels)
    (h : ∀ l ∈ ls, l.name ≠ m.name) :
    m.sat re ls = (match m.ty with
      | .eq => "" == m.value | .neq => "" != m.value
      | .re => reLookup re m.value "" | .nre => !reLookup re m.value "") := by
  have : Labels.get ls m.name = "" := by
    unfold Labels.get
    have : ls.find? (fun l => l.name == m.name) = none := by
      apply List.find?_eq_none.mpr
      intro l hl
      simpa using h l hl
    simp [this]
  unfold Matcher.sat
  simp only [this]
  cases m.ty <;> rfl

/-- PropagateMatchers: for a pair of series matched one-to-one on all labels (equal label sets
apart from the metric name), adding the other side's non-name matchers to each side accepts
the pair iff the original selectors accept it. Every matcher of both sides is kept. -/
theorem propagate_sound (re : ReTab) (lms rms : List Matcher) (l1 l2 : Labels)
    (hpair : l1.dropName = l2.dropName) :
    (matchAll re (addMissing lms (rms.filter fun x => !isNameMatcher x)) l1
      && matchAll re (addMissing rms (lms.filter fun x => !isNameMatcher x)) l2)
    = (matchAll re lms l1 && matchAll re rms l2) := by
  rw [matchAll_addMissing, matchAll_addMissing, matchAll_nonName re rms hpair, ← matchAll_nonName re lms hpair]
  cases ha : matchAll re lms l1 <;> cases hb : matchAll re rms l2 <;> simp
  · rw [matchAll_filter re rms _ l2 hb, matchAll_filter re lms _ l1 ha]
    simp

/-- ... and the optimizer rewrites a binary expression only where that hypothesis is the matching
rule: no `on`, no label list (so the match key is the whole label set without the name), one-to-one,
not a comparison. (`on ()` with an empty list matches on no label at all; the pinned tree propagated
there too - repaired, see `known_findings.jsonl`.) -/
theorem propagate_only_when_matching_on_all_labels {V : Type} (op : String) (b : Bool) (m : Matching)
    (l r : Expr V) (h : propBin op b m l r ≠ .bin op b m l r) :
    m.on = false ∧ m.labels = [] ∧ m.card = .oneToOne ∧ comparisonOps.contains op = false := by
  rcases propBin_cases op b m l r with e | ⟨_, _, _, _, hcmp, hon, hlab, hcard, _⟩
  · exact absurd e h
  · exact ⟨hon, hlab, hcard, hcmp⟩

/-- for such a matching the join key of a series is its label set without the metric name -/
theorem match_key_on_all_labels (m : Matching) (keepName : Bool) (ls : Labels) (h1 : m.on = false)
    (h2 : m.labels = []) : (engSignature m keepName ls).1 = ls.dropName := by
  unfold engSignature
  simp [h1, h2, Labels.del, filter_true]

/-- non-vacuity: a usable replacement with a repeated label name and a series that lacks the
filtered label -/
example :
    let top : List Matcher := [⟨.eq, "__name__", "m"⟩, ⟨.eq, "a", "b"⟩, ⟨.neq, "a", "c"⟩]
    let sel : List Matcher := [⟨.eq, "__name__", "m"⟩, ⟨.eq, "a", "b"⟩, ⟨.neq, "a", "c"⟩, ⟨.eq, "c", "d"⟩]
    usableReplacement top sel = true ∧
      matchAll [] (top ++ mergeFilters top sel) [⟨"__name__", "m"⟩, ⟨"a", "b"⟩] = false := by
  decide +kernel

/-- **PropagateMatchers leaves the value of the binary expression it rewrites unchanged**
(`Proofs/PropSound.lean`): two plain selectors joined one-to-one on all labels, whose selections
at the step have pairwise distinct label sets apart from the metric name (no duplicate series on
either side, so the reference matching raises no error): the narrower selectors drop exactly the
series that have no partner - a left series failing the right selector's non-name matchers cannot
have a partner, since a partner carries the same labels and satisfies them (`propagate_sound` is the
pair-level statement) - and what remains is matched as before, in the same order. Where `propBin`
does not rewrite, there is nothing to show. Without the uniqueness hypothesis the rewrite can turn
a duplicate-series error of the reference into a result (the dropped series may be the
duplicates): the optimizer is sound only up to that error, which the `opt` oracle does not see
because the engine lacks the check (KF-no-duplicate-check). -/
theorem propagate_matchers_preserves_binary_value {V : Type} [Val V] (c : Ctx V) (op : String) (b : Bool)
    (m : Matching) (ls rs : VSel) (t : Int)
    (hul : ((selectV c ls t).map fun x => x.1.dropName).Nodup)
    (hur : ((selectV c rs t).map fun x => x.1.dropName).Nodup) :
    eval c t (propBin op b m (.vsel ls) (.vsel rs)) = eval c t (.bin op b m (.vsel ls) (.vsel rs)) :=
  propagate_node_sound c op b m ls rs t hul hur

/-- the rewrite the theorem is about: `m{a="x"} + n` becomes `m{a="x"} + n{a="x"}` -/
example :
    (propBin "+" false ⟨.oneToOne, false, [], []⟩
      (.vsel ⟨[⟨.eq, "__name__", "m"⟩, ⟨.eq, "a", "x"⟩], 0, none, none⟩)
      (.vsel ⟨[⟨.eq, "__name__", "n"⟩], 0, none, none⟩) : Expr Int)
    = .bin "+" false ⟨.oneToOne, false, [], []⟩
      (.vsel ⟨[⟨.eq, "__name__", "m"⟩, ⟨.eq, "a", "x"⟩], 0, none, none⟩)
      (.vsel ⟨[⟨.eq, "__name__", "n"⟩, ⟨.eq, "a", "x"⟩], 0, none, none⟩) := by
  rfl

/-- ... over a storage on which the hypotheses hold and the rewrite narrows the right side: `n{a="y"}`
is no longer selected, and the value is `m{a="x"} + n{a="x"}` either way -/
example :
    let c : Ctx Int := { st := [⟨[⟨"__name__", "m"⟩, ⟨"a", "x"⟩], [⟨0, .num 1⟩]⟩, ⟨[⟨"__name__", "n"⟩, ⟨"a", "x"⟩], [⟨0, .num 10⟩]⟩,
                                ⟨[⟨"__name__", "n"⟩, ⟨"a", "y"⟩], [⟨0, .num 20⟩]⟩], lookback := 300000, start := 0 }
    let ls : VSel := ⟨[⟨.eq, "__name__", "m"⟩, ⟨.eq, "a", "x"⟩], 0, none, none⟩
    let rs : VSel := ⟨[⟨.eq, "__name__", "n"⟩], 0, none, none⟩
    ((selectV c ls 1000).map fun x => x.1.dropName).Nodup ∧ ((selectV c rs 1000).map fun x => x.1.dropName).Nodup ∧
      (selectV c rs 1000).length = 2 ∧ (selectV c { rs with matchers := rs.matchers ++ [⟨.eq, "a", "x"⟩] } 1000).length = 1 := by
  decide +kernel

/-! ### the optimizers on whole plans -/

/-- **SortMatchers leaves the value of every plan unchanged**: for every expression (every
construct of the reference semantics, `timestamp()` with its dependence on the form of its
argument included), every storage, regex table and step -/
theorem sort_matchers_plan_sound {V : Type} [Val V] (c : Ctx V) (e : Expr V) (t : Int) :
    eval c t (optSortMatchers e) = eval c t e :=
  mapSelectors_sound c _ (sameSel_sortMatchers c) e t

/-- **MergeSelects leaves the value of every plan unchanged**: replacing selectors by a broader
select of the same metric plus an in-engine filter (whatever the other selectors of the query
put into the matcher heap) does not change what any selector selects, hence not the value of
the expression - at every step, for every storage and regex table -/
theorem merge_selects_plan_sound {V : Type} [Val V] (c : Ctx V) (e : Expr V) (t : Int) :
    eval c t (optMergeSelects e) = eval c t e :=
  mapSelectors_sound c _ (sameSel_mergeSel c _) e t

/-- ... and so does their composition, in either order -/
theorem sort_then_merge_plan_sound {V : Type} [Val V] (c : Ctx V) (e : Expr V) (t : Int) :
    eval c t (optMergeSelects (optSortMatchers e)) = eval c t e := by
  rw [merge_selects_plan_sound, sort_matchers_plan_sound]

end PromqlVerif.C09
