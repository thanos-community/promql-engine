/-
The vector pool and the result assembly of `Exec` (engine/engine.go, execution/model/pool.go), as
far as ownership of memory goes: operators take buffers from the pool and fill them; `Exec` copies
the values of a step vector into point slices it allocated itself and then returns the buffer to
the pool, from where the next `GetStepVector` - of this query or, the pool being per operator tree,
of a later batch - hands it out again to be overwritten. C20 says a returned result is never
altered afterwards; in this model: the values the assembled result reads never change under any
sequence of pool operations, because the arrays it points into are never in the pool or in an
operator's hands. The same machine with the copy replaced by a reference shows what breaks.
-/
import PromqlVerif.Slices
namespace PromqlVerif.PoolM
open Mem

variable {α : Type}

structure St (α : Type) where
  heap : Heap α
  /-- buffers in the pool -/
  free : List Nat
  /-- buffers handed out: in an operator's hands or inside a step vector on its way to `Exec` -/
  held : List Nat
  /-- arrays `Exec` allocated for the result -/
  own : List Nat
  /-- the assembled result -/
  result : List Slice

inductive Op (α : Type) where
  /-- an operator takes a buffer: from the pool, or a new one if the pool is empty -/
  | get
  /-- an operator (over)writes a buffer it holds -/
  | write (a : Nat) (xs : List α)
  /-- `Exec` copies the content of buffer `a` into an array of its own and keeps that -/
  | copyOut (a : Nat)
  /-- `Exec` returns buffer `a` to the pool -/
  | put (a : Nat)
  /-- (not what the code does) `Exec` keeps a reference to buffer `a` itself -/
  | aliasOut (a : Nat)

def step (s : St α) : Op α → St α
  | .get =>
    match s.free with
    | a :: rest => { s with free := rest, held := a :: s.held }
    | [] => { s with heap := s.heap ++ [[]], held := s.heap.length :: s.held }
  | .write a xs => if s.held.contains a then { s with heap := s.heap.set a xs } else s
  | .copyOut a =>
    let v := s.heap.getD a []
    { s with heap := s.heap ++ [v], own := s.heap.length :: s.own,
             result := s.result ++ [{ arr := s.heap.length, off := 0, len := v.length, cap := v.length }] }
  | .put a => if s.held.contains a then { s with held := s.held.erase a, free := a :: s.free } else s
  | .aliasOut a =>
    let v := s.heap.getD a []
    { s with result := s.result ++ [{ arr := a, off := 0, len := v.length, cap := v.length }] }

def run (s : St α) (ops : List (Op α)) : St α := ops.foldl step s

/-- what the caller sees in the result -/
def values (s : St α) : List (List α) := s.result.map (·.read s.heap)

def Op.isAlias : Op α → Bool
  | .aliasOut _ => true
  | _ => false

/-- the result points into `Exec`'s own arrays only, and those are never pooled or handed out -/
structure Inv (s : St α) : Prop where
  res : ∀ r ∈ s.result, r.arr ∈ s.own
  ownLt : ∀ a ∈ s.own, a < s.heap.length
  heldLt : ∀ a ∈ s.held, a < s.heap.length
  freeLt : ∀ a ∈ s.free, a < s.heap.length
  notHeld : ∀ a ∈ s.own, a ∉ s.held
  notFree : ∀ a ∈ s.own, a ∉ s.free

def init : St α := { heap := [], free := [], held := [], own := [], result := [] }

theorem inv_init : Inv (init : St α) := by
  constructor <;> exact fun _ h => nomatch h

/-- what the result read, it still reads in `s'`, if the result has only grown at its end and the
arrays its slices read are as they were -/
theorem values_prefix {s s' : St α} (extra : List Slice) (hres : s'.result = s.result ++ extra)
    (hread : ∀ r ∈ s.result, r.read s'.heap = r.read s.heap) : values s <+: values s' := by
  unfold values
  rw [hres, List.map_append, List.map_congr_left hread]
  exact List.prefix_append _ _

theorem Inv.read_push {s : St α} (hi : Inv s) (v : List α) :
    ∀ r ∈ s.result, r.read (s.heap ++ [v]) = r.read s.heap :=
  fun r hr => Mem.read_push _ _ r (hi.ownLt _ (hi.res r hr))

/-- buffers change hands between the pool and the operators -/
theorem Inv.repool {s : St α} (hi : Inv s) {held' free' : List Nat}
    (hh : ∀ a ∈ held', a ∈ s.held ∨ a ∈ s.free) (hf : ∀ a ∈ free', a ∈ s.held ∨ a ∈ s.free) :
    Inv { s with held := held', free := free' } where
  res := hi.res
  ownLt := hi.ownLt
  heldLt a ha := (hh a ha).elim (hi.heldLt a) (hi.freeLt a)
  freeLt a ha := (hf a ha).elim (hi.heldLt a) (hi.freeLt a)
  notHeld a ha h := (hh a h).elim (hi.notHeld a ha) (hi.notFree a ha)
  notFree a ha h := (hf a h).elim (hi.notHeld a ha) (hi.notFree a ha)

theorem lt_push {h : Heap α} {a : Nat} (v : List α) (ha : a < h.length) : a < (h ++ [v]).length := by
  rw [List.length_append]
  exact Nat.lt_add_right _ ha

theorem ne_length_of_mem {h : Heap α} {l : List Nat} (hl : ∀ a ∈ l, a < h.length) : h.length ∉ l :=
  fun hm => Nat.lt_irrefl _ (hl _ hm)

/-- one step of the machine as the code runs it (no `aliasOut`) keeps the invariant -/
theorem step_inv {s : St α} (hi : Inv s) {op : Op α} (hop : op.isAlias = false) : Inv (step s op) := by
  cases op with
  | aliasOut a => cases hop
  | get =>
    simp only [step]
    split
    · next a rest hf =>
      refine hi.repool (fun b hb => ?_) (fun b hb => .inr (hf ▸ List.mem_cons_of_mem _ hb))
      exact (List.mem_cons.mp hb).elim (fun e => .inr (hf ▸ e ▸ List.mem_cons_self)) .inl
    · exact {
        res := hi.res
        ownLt := fun a ha => lt_push _ (hi.ownLt a ha)
        heldLt := List.forall_mem_cons.mpr ⟨by simp, fun a ha => lt_push _ (hi.heldLt a ha)⟩
        freeLt := fun a ha => lt_push _ (hi.freeLt a ha)
        notHeld := fun a ha h => (List.mem_cons.mp h).elim
          (fun e => ne_length_of_mem hi.ownLt (e ▸ ha)) (hi.notHeld a ha)
        notFree := hi.notFree }
  | write a xs =>
    simp only [step]
    split
    · exact ⟨hi.res, by simpa using hi.ownLt, by simpa using hi.heldLt, by simpa using hi.freeLt,
        hi.notHeld, hi.notFree⟩
    · exact hi
  | copyOut a =>
    simp only [step]
    exact {
      res := fun r hr => (List.mem_append.mp hr).elim (fun h => List.mem_cons_of_mem _ (hi.res r h))
        (fun h => by rw [List.mem_singleton.mp h]; exact List.mem_cons_self)
      ownLt := List.forall_mem_cons.mpr ⟨by simp, fun a ha => lt_push _ (hi.ownLt a ha)⟩
      heldLt := fun a ha => lt_push _ (hi.heldLt a ha)
      freeLt := fun a ha => lt_push _ (hi.freeLt a ha)
      notHeld := fun a ha h => (List.mem_cons.mp ha).elim
        (fun e => ne_length_of_mem hi.heldLt (e ▸ h)) (fun ha => hi.notHeld a ha h)
      notFree := fun a ha h => (List.mem_cons.mp ha).elim
        (fun e => ne_length_of_mem hi.freeLt (e ▸ h)) (fun ha => hi.notFree a ha h) }
  | put a =>
    simp only [step]
    split
    · next hh =>
      have hmem : a ∈ s.held := List.contains_iff_mem.mp hh
      refine hi.repool (fun b hb => .inl (List.mem_of_mem_erase hb)) (fun b hb => ?_)
      exact (List.mem_cons.mp hb).elim (fun e => .inl (e ▸ hmem)) .inr
    · exact hi

/-- ... and what the result read before it still reads: only buffers in an operator's hands are
written, and the result's arrays are not among them -/
theorem step_values {s : St α} (hi : Inv s) {op : Op α} (hop : op.isAlias = false) :
    values s <+: values (step s op) := by
  cases op with
  | aliasOut a => cases hop
  | get =>
    simp only [step]
    split
    · exact List.prefix_refl _
    · exact values_prefix [] (List.append_nil _).symm (hi.read_push _)
  | write a xs =>
    simp only [step]
    split
    · next hh =>
      refine values_prefix [] (List.append_nil _).symm (fun r hr => read_set_ne _ _ _ r ?_)
      exact fun e => hi.notHeld _ (hi.res r hr) (e ▸ List.contains_iff_mem.mp hh)
    · exact List.prefix_refl _
  | copyOut a => exact values_prefix _ rfl (hi.read_push _)
  | put a =>
    simp only [step]
    split <;> exact List.prefix_refl _

theorem run_stable {s : St α} (hi : Inv s) {ops : List (Op α)} (hops : ∀ op ∈ ops, op.isAlias = false) :
    Inv (run s ops) ∧ values s <+: values (run s ops) := by
  induction ops generalizing s with
  | nil => exact ⟨hi, List.prefix_refl _⟩
  | cons op rest ih =>
    have hop := hops op List.mem_cons_self
    have ⟨hi', hp⟩ := ih (step_inv hi hop) (fun o ho => hops o (List.mem_cons_of_mem _ ho))
    exact ⟨hi', (step_values hi hop).trans hp⟩

/-- **whatever the operators and the pool do afterwards, what the result read stays what it
reads**: for every sequence of pool operations as the code performs them, the values of the
result before are a prefix of the values after (later `copyOut`s only add to it) -/
theorem result_is_stable (s : St α) (hi : Inv s) (ops : List (Op α)) (hops : ∀ op ∈ ops, op.isAlias = false) :
    Inv (run s ops) ∧ (values (run s ops)).take (values s).length = values s :=
  ⟨(run_stable hi hops).1, (List.prefix_iff_eq_take.mp (run_stable hi hops).2).symm⟩

/-- with a reference instead of a copy the same operations change the result: the buffer goes back
to the pool, the next `get` hands it out, the next write shows through -/
theorem aliased_result_changes :
    let s1 := run (init : St Nat) [.get, .write 0 [1, 2], .aliasOut 0]
    let s2 := run s1 [.put 0, .get, .write 0 [7, 8]]
    values s1 = [[1, 2]] ∧ values s2 = [[7, 8]] := by
  decide

/-- ... and with the copy they do not -/
example :
    let s1 := run (init : St Nat) [.get, .write 0 [1, 2], .copyOut 0]
    let s2 := run s1 [.put 0, .get, .write 0 [7, 8]]
    values s1 = [[1, 2]] ∧ values s2 = [[1, 2]] := by
  decide

end PromqlVerif.PoolM
