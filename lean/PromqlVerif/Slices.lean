/-
Go slices, as far as aliasing goes: a slice is a window (offset, length, capacity) into a backing
array; `append` writes in place when the capacity suffices and moves to a fresh array otherwise.
The engine handles label sets (`labels.Labels`, a slice) that the storage handed out; C17 says it
never writes to them. Whether an `append(x, ..)` can write into storage-owned memory depends on
exactly this: the spare capacity of `x`. `Properties/C17.lean` states what the model gives: an
append through a capacity-capped slice (`x[:len(x):len(x)]`) leaves every existing array as it
was, an append into spare capacity overwrites whatever shares the array.
-/
namespace PromqlVerif.Mem

variable {α : Type}

/-- a slice: backing array `arr`, window `[off, off+len)`, capacity `cap` counted from `off` -/
structure Slice where
  arr : Nat
  off : Nat
  len : Nat
  cap : Nat
deriving Repr, DecidableEq, Inhabited

/-- the heap: backing arrays by number -/
abbrev Heap (α : Type) := List (List α)

def Slice.read (h : Heap α) (s : Slice) : List α := ((h.getD s.arr []).drop s.off).take s.len

/-- the slice lies inside its array -/
def Slice.wf (h : Heap α) (s : Slice) : Prop :=
  s.arr < h.length ∧ s.len ≤ s.cap ∧ s.off + s.cap ≤ (h.getD s.arr []).length

/-- overwrite `a` from position `p` on with `xs` -/
def writeAt (a : List α) (p : Nat) (xs : List α) : List α := a.take p ++ xs ++ a.drop (p + xs.length)

/-- `append(s, xs...)`: in place if the capacity suffices, else into a new array -/
def Slice.append (h : Heap α) (s : Slice) (xs : List α) : Heap α × Slice :=
  if s.len + xs.length ≤ s.cap then
    (h.set s.arr (writeAt (h.getD s.arr []) (s.off + s.len) xs), { s with len := s.len + xs.length })
  else
    (h ++ [s.read h ++ xs], { arr := h.length, off := 0, len := s.len + xs.length, cap := s.len + xs.length })

/-- `s[:len(s):len(s)]`: the same window, no spare capacity -/
def Slice.capped (s : Slice) : Slice := { s with cap := s.len }

/-- `x.Copy()`: a fresh array with the content of the slice -/
def Slice.copy (h : Heap α) (s : Slice) : Heap α × Slice :=
  (h ++ [s.read h], { arr := h.length, off := 0, len := s.len, cap := s.len })

theorem getD_set_self {h : Heap α} {a : Nat} (ha : a < h.length) (v : List α) : (h.set a v).getD a [] = v := by
  rw [List.getD_eq_getElem?_getD, List.getElem?_set_self ha, Option.getD_some]

theorem set_getD_self {h : Heap α} {a : Nat} (ha : a < h.length) : h.set a (h.getD a []) = h := by
  rw [List.getD_eq_getElem?_getD, List.getElem?_eq_getElem ha, Option.getD_some, List.set_getElem_self]

/-- a slice reads its own array only: neither a new array on the heap ... -/
theorem read_push (h : Heap α) (x : List α) (t : Slice) (ht : t.arr < h.length) :
    t.read (h ++ [x]) = t.read h := by
  simp only [Slice.read, List.getD_eq_getElem?_getD, List.getElem?_append_left ht]

/-- ... nor a write to another array changes what it reads -/
theorem read_set_ne (h : Heap α) (a : Nat) (v : List α) (t : Slice) (hne : t.arr ≠ a) :
    t.read (h.set a v) = t.read h := by
  simp only [Slice.read, List.getD_eq_getElem?_getD, List.getElem?_set_ne (Ne.symm hne)]

theorem writeAt_nil (a : List α) (p : Nat) : writeAt a p [] = a := by
  simp [writeAt]

/-- up to the end of what was written, the array is its old part before `p` and then `xs` -/
theorem take_writeAt (a : List α) (p : Nat) (xs : List α) (hp : p ≤ a.length) :
    (writeAt a p xs).take (p + xs.length) = a.take p ++ xs := by
  unfold writeAt
  apply List.take_left'
  simp only [List.length_append, List.length_take]
  omega

theorem getElem?_writeAt (a : List α) (p : Nat) (x : α) (rest : List α) (hp : p ≤ a.length) :
    (writeAt a p (x :: rest))[p]? = some x := by
  unfold writeAt
  rw [List.append_assoc, List.getElem?_append_right (by simp only [List.length_take]; omega)]
  simp [Nat.min_eq_left hp]

theorem append_fits {h : Heap α} {s : Slice} {xs : List α} (hfit : s.len + xs.length ≤ s.cap) :
    s.append h xs =
      (h.set s.arr (writeAt (h.getD s.arr []) (s.off + s.len) xs), { s with len := s.len + xs.length }) :=
  if_pos hfit

theorem append_grows {h : Heap α} {s : Slice} {xs : List α} (hno : ¬ s.len + xs.length ≤ s.cap) :
    s.append h xs =
      (h ++ [s.read h ++ xs], { arr := h.length, off := 0, len := s.len + xs.length, cap := s.len + xs.length }) :=
  if_neg hno

/-- **an append through a capacity-capped slice leaves every existing array as it was**: whatever
slice `t` of the old heap one looks at - the storage's label sets among them - reads the same
afterwards -/
theorem capped_append_preserves_reads (h : Heap α) (s : Slice) (hs : s.arr < h.length) (xs : List α)
    (t : Slice) (ht : t.arr < h.length) :
    t.read (s.capped.append h xs).1 = t.read h := by
  cases xs with
  | nil =>
    -- fits, and writes nothing
    rw [append_fits (Nat.le_refl _), writeAt_nil]
    exact congrArg t.read (set_getD_self hs)
  | cons x rest =>
    -- never fits: the result is a new array
    rw [append_grows (by simp [Slice.capped])]
    exact read_push h _ t ht

/-- the result reads as the old content followed by the new elements - in place or not, which is
why a test that looks at results cannot tell the two apart -/
theorem append_reads (h : Heap α) (s : Slice) (hw : s.wf h) (xs : List α) :
    (s.append h xs).2.read (s.append h xs).1 = s.read h ++ xs := by
  by_cases hfit : s.len + xs.length ≤ s.cap
  · obtain ⟨harr, hlc, hcap⟩ := hw
    rw [append_fits hfit]
    simp only [Slice.read, getD_set_self harr]
    rw [List.take_drop, ← Nat.add_assoc, take_writeAt _ _ _ (by omega),
      List.drop_append_of_le_length (by simp only [List.length_take]; omega), List.drop_take,
      Nat.add_sub_cancel_left]
  · obtain ⟨_, hlc, hcap⟩ := hw
    rw [append_grows hfit]
    simp only [Slice.read, List.getD_eq_getElem?_getD, List.getElem?_concat_length, Option.getD_some,
      List.drop_zero]
    exact List.take_of_length_le (by simp only [List.length_append, List.length_take, List.length_drop]; omega)

/-- an append that fits the capacity puts its first element into the cell right behind the slice -
whoever else that cell belongs to -/
theorem append_in_place_writes (h : Heap α) (s : Slice) (hw : s.wf h) (x : α) (rest : List α)
    (hfit : s.len + (x :: rest).length ≤ s.cap) :
    ((s.append h (x :: rest)).1.getD s.arr [])[s.off + s.len]? = some x := by
  obtain ⟨harr, _, hcap⟩ := hw
  rw [append_fits hfit, getD_set_self harr]
  exact getElem?_writeAt _ _ x rest (by simp only [List.length_cons] at hfit; omega)

/-- **whatever is done to a copy - in-place deletions, appends into its spare capacity, any
rewrite of its array - leaves every array that existed before as it was** -/
theorem edit_of_copy_preserves_reads (h : Heap α) (s : Slice) (a' : List α) (t : Slice) (ht : t.arr < h.length) :
    t.read ((s.copy h).1.set (s.copy h).2.arr a') = t.read h := by
  show t.read ((h ++ [s.read h]).set h.length a') = t.read h
  rw [read_set_ne _ _ _ _ (by omega), read_push h _ t ht]

/-- **an append into spare capacity overwrites what shares the array**: one backing array holding
two label sets one after the other, as an arena-allocating storage lays them out; appending one
element to the first changes what the second reads -/
theorem append_in_place_overwrites_neighbour :
    let h : Heap Nat := [[1, 2, 3, 4]]
    let first : Slice := { arr := 0, off := 0, len := 2, cap := 4 }
    let second : Slice := { arr := 0, off := 2, len := 2, cap := 2 }
    second.read h = [3, 4] ∧ second.read (first.append h [9]).1 = [9, 4] ∧
      second.read (first.capped.append h [9]).1 = [3, 4] := by
  decide

end PromqlVerif.Mem
