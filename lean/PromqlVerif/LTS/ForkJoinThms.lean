/-
Kernel-checked exhaustive reachability of the coalesce fork-join, with the channel capacity the
extractor read off /repo's working tree.
-/
import PromqlVerif.LTS.ForkJoin
import PromqlVerif.Gen.Facts
namespace PromqlVerif.LTS.ForkJoin

/-- `make(errorChan, len(c.operators))` at every site means room for every child's error; anything
else is modelled as room for one -/
def feat : Features := { cap := if Gen.coalesceErrChanCaps.all (· == "len(c.operators)") then 3 else 1 }

/-- stated together so that the kernel explores the system once -/
theorem feat_explored :
    closedM (sys feat) (reachList (sys feat) 200) [noDeadlock feat, errorNotLost] = true ∧
    foundAll (sys feat) 200 [fun n => (decode n).parent == 1, fun n => (decode n).parent == 2] = true := by
  decide +kernel

/-- **the fork-join never gets stuck**: whichever children fail, in whatever order, every schedule
ends with the parent returned -/
theorem no_deadlock : ∀ s, Reach (sys feat) s → noDeadlock feat s = true :=
  invariant_of_closedM _ _ _ feat_explored.1 _ (.head _)

/-- **no error is lost**: if any child failed the parent returns an error -/
theorem error_not_lost : ∀ s, Reach (sys feat) s → errorNotLost s = true :=
  invariant_of_closedM _ _ _ feat_explored.1 _ (.tail _ (.head _))

/-- with room for one error only, two failing children block the second sender for ever and
`wg.Wait()` never returns (the shape of a seeded change) -/
theorem deadlock_with_capacity_one :
    (explored { cap := 1 }).all (noDeadlock { cap := 1 }) = false :=
  not_all_explore_of_search _ _ _ (by decide +kernel)

/-- non-trivial: both outcomes are reachable -/
theorem both_outcomes_reachable :
    (explored feat).any (fun n => (decode n).parent == 1) = true ∧
    (explored feat).any (fun n => (decode n).parent == 2) = true :=
  ⟨any_explore_of_foundAll _ _ _ feat_explored.2 _ (.head _),
   any_explore_of_foundAll _ _ _ feat_explored.2 _ (.tail _ (.head _))⟩

end PromqlVerif.LTS.ForkJoin
