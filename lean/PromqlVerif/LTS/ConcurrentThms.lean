/-
Kernel-checked exhaustive reachability for the `concurrencyOperator` system, instantiated
with the features the extractor read off /repo's working tree (`Gen.Facts`).
-/
import PromqlVerif.LTS.Concurrent
import PromqlVerif.Gen.Facts
namespace PromqlVerif.LTS.Concurrent

/-- 4 is the longest buffer the state encoding holds (`encode` keeps 128 codes for the buffer, four items
need 121); `C14.skeleton_as_modelled` checks that the capacities in the source lie in 1..4 -/
def genCap : Nat := Gen.concurrentBufferCaps.foldl min 4

/-- the protocol the code has now -/
def feat : Features :=
  { cap := genCap
    hasDrain := Gen.concurrentHasDrain && Gen.drainWaitsThenRanges
    recovers := Gen.pullRecovers
    closesOnReturn := Gen.pullClosesOnReturn
    envCancels := true
    sendsBlock := Gen.pullSendsBlock }

def featNoCancel : Features := { feat with envCancels := false }

/-- the exploration ends when the frontier is empty; the fuel only has to exceed the depth of the system -
were it too small, the list would not be closed under `step` and `feat_explored` would not check -/
def explored (f : Features) : List Nat := explore (sys f) 200 [(sys f).init] [(sys f).init]

/-- stated together so that the kernel explores the system once -/
theorem feat_explored :
    closedM (sys feat) (reachList (sys feat) 200) [noDeadlock feat, noCrash, returnedImpliesCancelled] = true ∧
    foundAll (sys feat) 200 [fun s => !errorNotSwallowed s] = true := by
  decide +kernel

theorem featNoCancel_explored : closedM (sys featNoCancel) (reachList (sys featNoCancel) 200) [errorNotSwallowed] = true := by
  decide +kernel

/-- **No deadlock, for every schedule and every moment of cancellation**: a reachable state
without successor has the consumer returned, the pull goroutine finished and the drain
goroutine finished. -/
theorem no_deadlock : ∀ s, Reach (sys feat) s → noDeadlock feat s = true :=
  invariant_of_closedM _ _ _ feat_explored.1 _ (.head _)

/-- **A panic below never kills the process** (the pull goroutine recovers and forwards it),
and the buffer is never written after it was closed. -/
theorem no_crash : ∀ s, Reach (sys feat) s → noCrash s = true :=
  invariant_of_closedM _ _ _ feat_explored.1 _ (.tail _ (.head _))

/-- when the consumer has returned for good, the context is cancelled, which releases the
goroutines (drain empties the buffer, pull observes `Done`) -/
theorem returned_implies_cancelled : ∀ s, Reach (sys feat) s → returnedImpliesCancelled s = true :=
  invariant_of_closedM _ _ _ feat_explored.1 _ (.tail _ (.tail _ (.head _)))

/-- **Error delivery**: as long as nobody cancels the context from outside, an error (or
recovered panic) of the child is what the consumer receives - never a clean end of stream. -/
theorem error_delivered_without_cancel :
    ∀ s, Reach (sys featNoCancel) s → errorNotSwallowed s = true :=
  invariant_of_closedM _ _ _ featNoCancel_explored _ (.head _)

/-- ... but with cancellation in play the model has a schedule in which the drain goroutine
takes the error out of the buffer and the consumer sees a clean end of stream: the consumer
passed its `ctx.Done()` check, cancellation happens, `pull` sends and closes, `drain`
receives first (see DESIGN.md, "model-level observation M1"). -/
theorem swallow_after_cancel_possible :
    (explored feat).any (fun s => !errorNotSwallowed s) = true :=
  any_explore_of_foundAll _ _ _ feat_explored.2 _ (.head _)

/-- without the drain goroutine the pull goroutine can block forever on a full buffer -/
theorem deadlock_without_drain :
    (explored { feat with hasDrain := false }).all (noDeadlock { feat with hasDrain := false }) = false :=
  not_all_explore_of_search _ _ _ (by decide +kernel)

/-- with a non-blocking send of the error (a `select` with `default`) a full buffer drops it and
the consumer sees a clean end of stream - even without any cancellation -/
theorem error_lost_with_nonblocking_send :
    (explored { featNoCancel with sendsBlock := false }).all errorNotSwallowed = false :=
  not_all_explore_of_search _ _ _ (by decide +kernel)

/-- without the deferred recover a panic below kills the process -/
theorem crash_without_recover :
    (explored { feat with recovers := false }).all noCrash = false :=
  not_all_explore_of_search _ _ _ (by decide +kernel)

end PromqlVerif.LTS.Concurrent
