/-
Kernel-checked exhaustive reachability for the worker-group protocol, instantiated with the
channel capacities and the kind of send the extractor read off /repo's working tree
(`Gen.workerChanCaps`, `Gen.workerOutputSends`).
-/
import PromqlVerif.LTS.Worker
import PromqlVerif.Gen.Facts
namespace PromqlVerif.LTS.Worker

/-- the protocol the code has now (`input`, `output` in the order `worker.New` makes them) -/
def feat : Features :=
  { capIn := Gen.workerChanCaps.getD 0 0, capOut := Gen.workerChanCaps.getD 1 0, envCancels := true,
    -- `Worker.start` sends its result with a plain `w.output <- ..` (regenerated: [plain sends,
    -- sends that are an arm of a select])
    sendGivesUp := Gen.workerOutputSends != [1, 0] }

def explored (f : Features) : List Nat := explore (sys f) 400 [(sys f).init] [(sys f).init]

/-- stated together so that the kernel explores the system once -/
theorem feat_explored :
    closedM (sys feat) (reachList (sys feat) 400) [noDeadlock feat, noCrash, zeroOnlyAfterCancel] = true ∧
    foundAll (sys feat) 400 [fun s => !cleanEndHasNoZero s,
      fun n => (decode n).cons == 9 && !(decode n).zero, fun n => (decode n).cons == 8] = true := by
  decide +kernel

/-- **No deadlock, no leaked worker, for every schedule and every moment of cancellation**: a
reachable state without successor has the consumer returned and both workers exited -/
theorem no_deadlock : ∀ s, Reach (sys feat) s → noDeadlock feat s = true :=
  invariant_of_closedM _ _ _ feat_explored.1 _ (.head _)

/-- **No channel misuse**: no send on a closed channel and no double close, whenever the context
is cancelled -/
theorem no_crash : ∀ s, Reach (sys feat) s → noCrash s = true :=
  invariant_of_closedM _ _ _ feat_explored.1 _ (.tail _ (.head _))

/-- the zero value of a closed `output` is only read after cancellation -/
theorem zero_only_after_cancel : ∀ s, Reach (sys feat) s → zeroOnlyAfterCancel s = true :=
  invariant_of_closedM _ _ _ feat_explored.1 _ (.tail _ (.tail _ (.head _)))

/-- with an unbuffered `input` the consumer can block forever: it passes the `ctx.Done()` check of
`Send`, the context is cancelled, the worker exits, the send never completes -/
theorem deadlock_with_unbuffered_input :
    (explored { feat with capIn := 0 }).all (noDeadlock { feat with capIn := 0 }) = false :=
  not_all_explore_of_search _ _ _ (by decide +kernel)

/-- a worker that gives up its hand-off on cancellation, without closing `output`, leaves a consumer
that has passed the `ctx.Done()` check of `GetOutput` waiting for ever (the shape of a seeded
change) -/
theorem deadlock_when_the_handoff_gives_up :
    (explored { feat with sendGivesUp := true }).all (noDeadlock { feat with sendGivesUp := true }) = false :=
  not_all_explore_of_search _ _ _ (by decide +kernel)

/-- a batch can contain the zero value of a closed `output`: the consumer passes the `ctx.Done()`
check of `GetOutput`, the context is cancelled, the worker closes `output` and exits, the receive
yields the zero step vector (DESIGN.md, model-level observation M2: the callers above re-check the
context before they ask for the next batch, so the query still ends with the context's error
unless this was the very last receive of the last batch) -/
theorem zero_value_batch_possible :
    (explored feat).any (fun s => !cleanEndHasNoZero s) = true :=
  any_explore_of_foundAll _ _ _ feat_explored.2 _ (.head _)

/-- the system is non-trivial: both a clean end and an error return are reachable -/
theorem both_outcomes_reachable :
    (explored feat).any (fun n => (decode n).cons == 9 && !(decode n).zero) = true ∧
    (explored feat).any (fun n => (decode n).cons == 8) = true :=
  ⟨any_explore_of_foundAll _ _ _ feat_explored.2 _ (.tail _ (.head _)),
   any_explore_of_foundAll _ _ _ feat_explored.2 _ (.tail _ (.tail _ (.head _)))⟩

end PromqlVerif.LTS.Worker
