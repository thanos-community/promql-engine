/-
Finite labelled transition systems. States are natural numbers. An invariant of all reachable
states is proved by evaluating `closedM` on the list `reachList` returns: the list is closed under
the step relation and the invariant holds of every member. That a state with some property can be
reached is proved by the schedule that leads to it (`runSched`); such statements speak of the list
`explore` returns, which is complete up to its depth (`mem_explore_of_sched`).
-/
namespace PromqlVerif.LTS

structure Sys where
  init : Nat
  step : Nat → List Nat

inductive Reach (S : Sys) : Nat → Prop
  | init : Reach S S.init
  | step {s t : Nat} : Reach S s → t ∈ S.step s → Reach S t

/-- breadth-first exploration: the list the reachability statements speak of -/
def explore (S : Sys) : Nat → List Nat → List Nat → List Nat
  | 0, seen, _ => seen
  | fuel + 1, seen, frontier =>
    match frontier with
    | [] => seen
    | _ =>
      let next := (frontier.flatMap S.step).eraseDups.filter (fun t => !seen.contains t)
      explore S fuel (seen ++ next) next

def closed (S : Sys) (R : List Nat) : Bool :=
  R.contains S.init && R.all (fun s => (S.step s).all (fun t => R.contains t))

theorem reach_sound (S : Sys) (R : List Nat) (h : closed S R = true) :
    ∀ s, Reach S s → s ∈ R := by
  unfold closed at h
  simp only [Bool.and_eq_true, List.all_eq_true, List.contains_eq_mem, decide_eq_true_eq] at h
  intro s hs
  induction hs with
  | init => exact h.1
  | step _ ht ih => exact h.2 _ ih _ ht

/-! ### closed sets as bit masks

`closed` looks every successor up in a list; the kernel does the same check in a fraction of the
steps on a bit mask, where membership is arithmetic on one (large) numeral. -/

def maskOf (R : List Nat) : Nat := R.foldl (fun m s => m ||| 1 <<< s) 0

theorem testBit_foldl_mask (R : List Nat) (m s : Nat) :
    (R.foldl (fun m s => m ||| 1 <<< s) m).testBit s = true ↔ m.testBit s = true ∨ s ∈ R := by
  induction R generalizing m with
  | nil => simp
  | cons r R ih =>
    rw [List.foldl_cons, ih, Nat.testBit_or, Nat.one_shiftLeft, Nat.testBit_two_pow, Bool.or_eq_true,
      decide_eq_true_eq, List.mem_cons, or_assoc, @eq_comm _ r]

theorem testBit_maskOf (R : List Nat) (s : Nat) : (maskOf R).testBit s = true ↔ s ∈ R := by
  simp [maskOf, testBit_foldl_mask]

/-- `explore` with the seen states kept as a bit mask as well, recording for every state the
schedule that led to it: the index of the successor taken at each state, last step first. It
stops after the round in which a state satisfying `stop` turns up (untrusted: `closedM` and
`runSched` validate what it returns) -/
def exploreM (S : Sys) (stop : Nat → Bool) :
    Nat → Nat → List (Nat × List Nat) → List (Nat × List Nat) → List (Nat × List Nat)
  | 0, _, seen, _ => seen
  | _, _, seen, [] => seen
  | fuel + 1, m, seen, frontier =>
    let new := frontier.foldl (fun acc (s, sch) =>
      (S.step s).zipIdx.foldl (fun acc (t, i) =>
        if acc.1.testBit t then acc else (acc.1 ||| 1 <<< t, (t, i :: sch) :: acc.2)) acc) (m, [])
    if new.2.any (fun (t, _) => stop t) then new.2 ++ seen
    else exploreM S stop fuel new.1 (new.2 ++ seen) new.2

def reachList (S : Sys) (depth : Nat) : List (Nat × List Nat) :=
  exploreM S (fun _ => false) depth (1 <<< S.init) [(S.init, [])] [(S.init, [])]

/-- `closed` with the lookups done on the mask, and invariants checked in the same pass. The states
are taken out of the pairs by pattern matching, as `exploreM` does: the kernel then meets
`S.step s` with the very term it evaluated during the exploration and finds the result in its
cache (through a projection it would compute every step list a second time). -/
def closedM (S : Sys) (L : List (Nat × List Nat)) (Ps : List (Nat → Bool)) : Bool :=
  (maskOf (L.map (·.1))).testBit S.init &&
    L.all fun (s, _) => Ps.all (· s) && (S.step s).all (maskOf (L.map (·.1))).testBit

theorem invariant_of_closedM (S : Sys) (L : List (Nat × List Nat)) (Ps : List (Nat → Bool))
    (h : closedM S L Ps = true) (P : Nat → Bool) (hP : P ∈ Ps) : ∀ s, Reach S s → P s = true := by
  simp only [closedM, Bool.and_eq_true, List.all_eq_true, testBit_maskOf] at h
  intro s hs
  have hc : closed S (L.map (·.1)) = true := by
    simp only [closed, Bool.and_eq_true, List.all_eq_true, List.contains_eq_mem, decide_eq_true_eq]
    exact ⟨h.1, fun s hs => let ⟨x, hx, hxs⟩ := List.mem_map.mp hs; hxs ▸ (h.2 x hx).2⟩
  obtain ⟨x, hx, rfl⟩ := List.mem_map.mp (reach_sound S _ hc s hs)
  exact (h.2 x hx).1 P hP

/-- the state a schedule leads to: at every state the index of the successor taken -/
def runSched (S : Sys) : Nat → List Nat → Option Nat
  | s, [] => some s
  | s, i :: is =>
    match (S.step s)[i]? with
    | some t => runSched S t is
    | none => none

theorem explore_nil (S : Sys) (fuel : Nat) (seen : List Nat) : explore S fuel seen [] = seen := by
  cases fuel <;> rfl

theorem subset_explore (S : Sys) (fuel : Nat) (seen frontier : List Nat) :
    seen ⊆ explore S fuel seen frontier := by
  induction fuel generalizing seen frontier with
  | zero => exact fun _ h => h
  | succ fuel ih =>
    cases frontier with
    | nil => exact fun _ h => h
    | cons f fs => exact fun s h => ih _ _ (List.mem_append_left _ h)

/-- Breadth-first search is complete up to its depth. Invariant of `explore`: a state seen before
the current frontier has all its successors among the seen ones. -/
theorem mem_explore_of_sched (S : Sys) (fuel : Nat) (seen frontier : List Nat)
    (hinv : ∀ s ∈ seen, s ∈ frontier ∨ ∀ t ∈ S.step s, t ∈ seen)
    (s : Nat) (hs : s ∈ seen) (sched : List Nat) (hl : sched.length ≤ fuel) (t : Nat)
    (ht : runSched S s sched = some t) : t ∈ explore S fuel seen frontier := by
  induction fuel generalizing seen frontier s sched with
  | zero =>
    cases sched with
    | nil => cases ht; exact hs
    | cons _ _ => simp at hl
  | succ fuel ih =>
    cases sched with
    | nil => cases ht; exact subset_explore S _ _ _ hs
    | cons i is =>
      simp only [runSched] at ht
      split at ht
      next s1 hs1 =>
        have hmem : s1 ∈ S.step s := List.mem_of_getElem? hs1
        have hl : is.length ≤ fuel := Nat.le_of_succ_le_succ hl
        cases frontier with
        | nil =>
          have hcl : ∀ s ∈ seen, ∀ t ∈ S.step s, t ∈ seen := fun s hs =>
            (hinv s hs).resolve_left (by simp)
          have := ih seen [] (fun s hs => .inr (hcl s hs)) s1 (hcl s hs s1 hmem) is hl ht
          rwa [explore_nil] at this
        | cons f fs =>
          -- one round: the successors of everything seen so far are seen afterwards
          have hsucc : ∀ s ∈ seen, ∀ t ∈ S.step s, t ∈ seen ++
              (((f :: fs).flatMap S.step).eraseDups.filter fun t => !seen.contains t) := by
            intro s hs t ht
            by_cases hseen : t ∈ seen
            · exact List.mem_append_left _ hseen
            · refine List.mem_append_right _ (List.mem_filter.mpr ⟨List.mem_eraseDups.mpr ?_, by simpa using hseen⟩)
              cases hinv s hs with
              | inl hf => exact List.mem_flatMap.mpr ⟨s, hf, ht⟩
              | inr hc => exact absurd (hc t ht) hseen
          refine ih _ _ (fun s hs => ?_) s1 (hsucc s hs s1 hmem) is hl ht
          cases List.mem_append.mp hs with
          | inl h => exact .inr (hsucc s h)
          | inr h => exact .inl h
      next => cases ht

def confirmed (S : Sys) (fuel : Nat) (x : Nat × List Nat) : Bool :=
  x.2.length ≤ fuel && runSched S S.init x.2.reverse == some x.1

def found (S : Sys) (fuel : Nat) (P : Nat → Bool) (l : List (Nat × List Nat)) : Bool :=
  l.any fun (s, sch) => P s && confirmed S fuel (s, sch)

theorem any_explore_of_found (S : Sys) (fuel : Nat) (P : Nat → Bool) (l : List (Nat × List Nat))
    (h : found S fuel P l = true) : (explore S fuel [S.init] [S.init]).any P = true := by
  obtain ⟨x, -, hx⟩ := List.any_eq_true.mp h
  simp only [confirmed, Bool.and_eq_true, decide_eq_true_eq, beq_iff_eq] at hx
  exact List.any_eq_true.mpr ⟨x.1, mem_explore_of_sched S fuel _ _ (fun s hs => .inl hs) S.init
    (List.mem_singleton_self _) x.2.reverse (by simpa using hx.2.1) x.1 hx.2.2, hx.1⟩

def foundAll (S : Sys) (fuel : Nat) (Ps : List (Nat → Bool)) : Bool :=
  Ps.all fun P => found S fuel P (reachList S fuel)

theorem any_explore_of_foundAll (S : Sys) (fuel : Nat) (Ps : List (Nat → Bool)) (h : foundAll S fuel Ps = true)
    (P : Nat → Bool) (hP : P ∈ Ps) : (explore S fuel [S.init] [S.init]).any P = true :=
  any_explore_of_found S fuel P _ (List.all_eq_true.mp h P hP)

theorem not_all_explore_of_search (S : Sys) (fuel : Nat) (P : Nat → Bool)
    (h : found S fuel (fun s => !P s)
      (exploreM S (fun s => !P s) fuel (1 <<< S.init) [(S.init, [])] [(S.init, [])]) = true) :
    (explore S fuel [S.init] [S.init]).all P = false := by
  rw [List.all_eq_not_any_not, any_explore_of_found S fuel _ _ h]; rfl

end PromqlVerif.LTS
