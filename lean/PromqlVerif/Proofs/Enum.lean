/-
`enum` pairs the elements of a list with their positions: it is core's `List.zipIdx` with the
components swapped, so its first components are `List.range`, its second components the list
itself, and `(i, a)` is in it exactly when `a` is the element at position `i`.
-/
import PromqlVerif.Eng
namespace PromqlVerif

theorem enumFrom_eq_zipIdx {α : Type} (k : Nat) (l : List α) :
    enumFrom k l = (l.zipIdx k).map fun p => (p.2, p.1) := by
  induction l generalizing k with
  | nil => rfl
  | cons a l ih => simp [enumFrom, ih]

theorem enumFrom_fst {α : Type} (k : Nat) (l : List α) :
    (enumFrom k l).map (·.1) = List.range' k l.length := by
  rw [enumFrom_eq_zipIdx, List.map_map]
  exact List.zipIdx_map_snd k l

theorem enumFrom_snd {α : Type} (k : Nat) (l : List α) : (enumFrom k l).map (·.2) = l := by
  rw [enumFrom_eq_zipIdx, List.map_map]
  exact List.zipIdx_map_fst k l

theorem enumFrom_map {α β : Type} (g : α → β) (k : Nat) (l : List α) :
    enumFrom k (l.map g) = (enumFrom k l).map fun p => (p.1, g p.2) := by
  rw [enumFrom_eq_zipIdx, enumFrom_eq_zipIdx, List.zipIdx_map, List.map_map, List.map_map]
  rfl

theorem enumFrom_add {α : Type} (n k : Nat) (l : List α) :
    enumFrom (n + k) l = (enumFrom n l).map fun p => (p.1 + k, p.2) := by
  rw [enumFrom_eq_zipIdx, enumFrom_eq_zipIdx, Nat.add_comm, ← List.map_snd_add_zipIdx_eq_zipIdx,
    List.map_map, List.map_map]
  rfl

theorem enumFrom_append {α : Type} (n : Nat) (A B : List α) :
    enumFrom n (A ++ B) = enumFrom n A ++ enumFrom (n + A.length) B := by
  rw [enumFrom_eq_zipIdx, enumFrom_eq_zipIdx, enumFrom_eq_zipIdx, List.zipIdx_append, List.map_append]

theorem enum_fst {α : Type} (l : List α) : (enum l).map (·.1) = List.range l.length := by
  rw [enum, enumFrom_fst, List.range_eq_range']

theorem enum_snd {α : Type} (l : List α) : (enum l).map (·.2) = l := enumFrom_snd 0 l

theorem enum_map {α β : Type} (g : α → β) (l : List α) :
    enum (l.map g) = (enum l).map fun p => (p.1, g p.2) := enumFrom_map g 0 l

theorem mem_enum_iff_getElem? {α : Type} (l : List α) (p : Nat × α) : p ∈ enum l ↔ l[p.1]? = some p.2 := by
  rw [enum, enumFrom_eq_zipIdx, List.mem_map]
  constructor
  · rintro ⟨q, hq, rfl⟩; exact List.mem_zipIdx_iff_getElem?.mp hq
  · exact fun h => ⟨(p.2, p.1), List.mem_zipIdx_iff_getElem?.mpr h, rfl⟩

theorem mem_enum {α : Type} (l : List α) (d : α) (p : Nat × α) :
    p ∈ enum l ↔ p.1 < l.length ∧ p.2 = l.getD p.1 d := by
  rw [mem_enum_iff_getElem?, List.getElem?_eq_some_iff, List.getD_eq_getElem?_getD]
  constructor
  · rintro ⟨h, e⟩; exact ⟨h, by simp [h, e]⟩
  · rintro ⟨h, e⟩; exact ⟨h, by simp [h, e]⟩

theorem enum_snd_mem {α : Type} (l : List α) (q : Nat × α) (h : q ∈ enum l) : q.2 ∈ l :=
  List.mem_of_getElem? ((mem_enum_iff_getElem? l q).mp h)

end PromqlVerif
