/-
Pull execution = per-step semantics on the grid (C18, C07), for every plan tree whose leaves share
the query window. What one call of `Next` does (`next_spec`) comes from two inductions over the plan:
past the window's end a plan is a fixed point of `Next` that returns nil (`next_ended`; it stays
aligned by a third, `al_stay`); inside the window every operator returns exactly the batch the
per-step denotation prescribes at the common cursor, its successor is aligned at the next cursor
and denotes the same (`next_live`). Hence: batches of at most `B` step vectors,
one per step, in step order, siblings aligned position by position, positional pairing = pairing by
timestamp, and the end of the stream is final for every operator. One more induction over the plan
(`aligned_safe`) has the unchecked indices in range.
-/
import PromqlVerif.Streams
import PromqlVerif.Proofs.Grid
namespace PromqlVerif.Streams

variable {α : Type}

theorem pairOpt_same (ts : List Int) (a b : Int → α) :
    pairOpt (ts.map fun t => (t, a t)) (ts.map fun t => (t, b t)) = ts.map fun t => (t, a t, some (b t)) := by
  induction ts with
  | nil => rfl
  | cons t ts ih => simp only [List.map_cons, pairOpt, ih]

theorem zipPos_same (g : Int → Int → α → α → α) (ts : List Int) (a b : Int → α) :
    zipPos g (ts.map fun t => (t, a t)) (ts.map fun t => (t, b t)) = ts.map fun t => (t, g t t (a t) (b t)) := by
  simp [zipPos, List.zipWith_map, List.zipWith_self]

theorem at_next (k : Cfg) (hs : 0 < k.step) (hB : 0 < k.B) (stop cur x : Int) (h : At stop cur x)
    (hend : stop < cur) : At stop (cur + k.step * k.B) x := by
  have hp : 0 < k.step * (k.B : Int) := Int.mul_pos hs (by omega)
  unfold At at *
  omega

theorem at_adv (k : Cfg) (hs : 0 < k.step) (hB : 0 < k.B) (stop cur x : Int) (h : At stop cur x)
    (hin : ¬ stop < cur) : At stop (cur + k.step * k.B) (x + k.step * k.B) := by
  unfold At at *
  omega

theorem at_cur (stop cur x : Int) (h : At stop cur x) (hin : cur ≤ stop) : x = cur := by
  unfold At at h
  omega

theorem at_end (stop cur x : Int) (h : At stop cur x) (hend : stop < cur) : stop < x := by
  unfold At at h
  omega

/-- a plan that has ended stays aligned when it is not pulled while the window's cursor moves on -/
theorem al_stay (k : Cfg) (hs : 0 < k.step) (hB : 0 < k.B) :
    ∀ (p : Plan α) (stop cur : Int), Al k stop cur p → stop < cur → Al k stop (cur + k.step * k.B) p := by
  intro p stop cur h hend
  induction p with
  | leaf f s c n | inv s c cache dflt pin ch _ => exact ⟨h.1, at_next k hs hB stop cur c h.2.1 hend, h.2.2⟩
  | map g c ih => exact ih h
  | zip g l r ihl ihr | fn eoe g l r ihl ihr | co g l r ihl ihr => exact ⟨ihl h.1, ihr h.2⟩
  | script bs => exact h.elim

theorem next_ended (k : Cfg) (p : Plan α) (stop cur : Int) (h : Al k stop cur p) (hend : stop < cur) :
    next k p = (none, p) := by
  induction p with
  | leaf f s c n | inv s c cache dflt pin ch _ => simp [next, h.1, at_end stop cur c h.2.1 hend]
  | map g c ih => simp [next, ih h]
  | zip g l r ihl ihr | co g l r ihl ihr => simp [next, ihl h.1, ihr h.2]
  | fn eoe g v s ihv _ => simp [next, ihv h.1]
  | script bs => exact h.elim

theorem next_live (d0 : α) (k : Cfg) (hs : 0 < k.step) (hB : 0 < k.B) :
    ∀ (p : Plan α) (stop cur : Int), Al k stop cur p → cur ≤ stop →
      ∃ p', next k p = (some ((walk stop k.step k.B cur).map fun t => (t, den d0 p t)), p') ∧
        Al k stop (cur + k.step * k.B) p' ∧ den d0 p' = den d0 p := by
  intro p
  induction p with
  | leaf f s c n =>
    rintro stop cur ⟨rfl, hat, hn⟩ hle
    obtain rfl := at_cur s cur c hat hle
    rcases hn with rfl | ⟨hnB, hpast⟩
    · exact ⟨.leaf f s (c + k.step * k.B) k.B, by simp only [next, Int.not_lt.mpr hle, if_false, den],
        ⟨rfl, Or.inl rfl, Or.inl rfl⟩, rfl⟩
    · -- fewer steps per batch: the batch reaches the window's end, so it is what `B` steps give, and
      -- the leaf has ended
      have hw := walk_saturate s k.step (Int.le_of_lt hs) n k.B c hnB (by rwa [Int.mul_comm])
      have h0 : 0 ≤ k.step * (n : Int) := Int.mul_nonneg (Int.le_of_lt hs) (by omega)
      have hB' : k.step * (n : Int) ≤ k.step * k.B := Int.mul_le_mul_of_nonneg_left (by omega) (Int.le_of_lt hs)
      exact ⟨.leaf f s (c + k.step * n) n, by simp only [next, Int.not_lt.mpr hle, if_false, hw, den],
        ⟨rfl, Or.inr (by omega), Or.inr ⟨hnB, by omega⟩⟩, rfl⟩
  | map g c ih =>
    intro stop cur hal hle
    obtain ⟨c', hc, hal', hd⟩ := ih stop cur hal hle
    exact ⟨.map g c', by simp [next, hc, den], hal', by funext t; simp only [den, hd]⟩
  | zip g l r ihl ihr =>
    intro stop cur hal hle
    obtain ⟨l', hl, all, dl⟩ := ihl stop cur hal.1 hle
    obtain ⟨r', hr, alr, dr⟩ := ihr stop cur hal.2 hle
    refine ⟨.zip g l' r', ?_, ⟨all, alr⟩, by funext t; simp only [den, dl, dr]⟩
    simp [next, hl, hr, zipPos_same, walk_ne_nil hB hle, den]
  | fn eoe g v s ihv ihs =>
    intro stop cur hal hle
    obtain ⟨v', hv, alv, dv⟩ := ihv stop cur hal.1 hle
    obtain ⟨s', hs', als, ds⟩ := ihs stop cur hal.2 hle
    refine ⟨.fn eoe g v' s', ?_, ⟨alv, als⟩, by funext t; simp only [den, dv, ds]⟩
    simp [next, hv, hs', pairOpt_same, walk_ne_nil hB hle, den]
  | co g l r ihl ihr =>
    intro stop cur hal hle
    obtain ⟨l', hl, all, dl⟩ := ihl stop cur hal.1 hle
    obtain ⟨r', hr, alr, dr⟩ := ihr stop cur hal.2 hle
    refine ⟨.co g l' r', ?_, ⟨all, alr⟩, by funext t; simp only [den, dl, dr]⟩
    simp [next, hl, hr, pairOpt_same, den]
  | inv s c cache dflt pin ch ih =>
    rintro stop cur ⟨rfl, hat, hc⟩ hle
    obtain rfl := at_cur s cur c hat hle
    -- the cursor advances by the steps delivered: a full batch, or it is past the end
    have hadv : At s (c + k.step * k.B) (c + k.step * (walk s k.step k.B c).length) := by
      rcases walk_len s k.step k.B c with h | h
      · rw [h]; exact Or.inl rfl
      · have : (k.step * (walk s k.step k.B c).length : Int) ≤ k.step * k.B :=
          Int.mul_le_mul_of_nonneg_left (by have := walk_length_le s k.step k.B c; omega) (Int.le_of_lt hs)
        exact Or.inr (by omega)
    cases cache with
    | some v =>
      exact ⟨.inv s (c + k.step * (walk s k.step k.B c).length) (some v) dflt pin ch,
        by simp only [next, Int.not_lt.mpr hle, if_false, den], ⟨rfl, hadv, Or.inl rfl⟩, rfl⟩
    | none =>
      -- the child's one-step window `[pin, pin]` is live, and its first step vector is at `pin`
      obtain ⟨ch', hch, _, _⟩ := ih pin pin (hc.resolve_left (by simp)) (Int.le_refl pin)
      rw [walk_pos hB (Int.le_refl pin)] at hch
      exact ⟨.inv s (c + k.step * (walk s k.step k.B c).length) (some (den d0 ch pin)) dflt pin ch',
        by simp only [next, Int.not_lt.mpr hle, if_false, hch, List.map_cons, den], ⟨rfl, hadv, Or.inl rfl⟩, rfl⟩
  | script bs => intro stop cur h; exact h.elim

theorem out_end (k : Cfg) (stop cur : Int) (d : Int → α) (h : stop < cur) : out k stop cur d = none := by
  simp [out, h]

theorem out_in (k : Cfg) (stop cur : Int) (d : Int → α) (h : cur ≤ stop) :
    out k stop cur d = some ((walk stop k.step k.B cur).map fun t => (t, d t)) := by
  simp [out, Int.not_lt.mpr h]

theorem out_some (k : Cfg) (hs : 0 < k.step) (stop cur : Int) (d : Int → α) (b : Batch α)
    (h : out k stop cur d = some b) : b.length ≤ k.B ∧ ∀ x ∈ b, x.1 ≤ stop := by
  unfold out at h
  split at h
  · cases h
  · cases h
    refine ⟨by simpa using walk_length_le stop k.step k.B cur, fun x hx => ?_⟩
    obtain ⟨t, ht, rfl⟩ := List.mem_map.mp hx
    exact (walk_mem stop k.step (Int.le_of_lt hs) _ _ t ht).2.1

theorem next_spec (d0 : α) (k : Cfg) (hs : 0 < k.step) (hB : 0 < k.B) (p : Plan α) (stop cur : Int)
    (hal : Al k stop cur p) :
    (next k p).1 = out k stop cur (den d0 p) ∧ Al k stop (cur + k.step * k.B) (next k p).2 ∧
      den d0 (next k p).2 = den d0 p := by
  by_cases hend : stop < cur
  · rw [next_ended k p stop cur hal hend, out_end k stop cur _ hend]
    exact ⟨rfl, al_stay k hs hB p stop cur hal hend, rfl⟩
  · obtain ⟨p', hp, hal', hd⟩ := next_live d0 k hs hB p stop cur hal (by omega)
    rw [hp, out_in k stop cur _ (by omega)]
    exact ⟨rfl, hal', hd⟩

/-- **the whole stream**: the i-th call of `Next` returns the batch the per-step denotation
prescribes at cursor `cur + step * B * i` -/
theorem run_spec (d0 : α) (k : Cfg) (hs : 0 < k.step) (hB : 0 < k.B) :
    ∀ (n : Nat) (p : Plan α) (stop cur : Int), Al k stop cur p →
      run k n p = (List.range n).map fun (i : Nat) => out k stop (cur + k.step * k.B * (i : Int)) (den d0 p)
  | 0, _, _, _, _ => rfl
  | n + 1, p, stop, cur, hal => by
    obtain ⟨h1, h2, h3⟩ := next_spec d0 k hs hB p stop cur hal
    rw [run, run_spec d0 k hs hB n _ stop _ h2, h1, h3, List.range_succ_eq_map, List.map_cons, List.map_map]
    -- the head is the batch at `cur`; the tail is indexed by `i + 1` on one side and starts at
    -- `cur + step * B` on the other
    simp [Int.mul_add, Int.add_assoc, Int.add_comm (k.step * k.B)]

theorem run_ended (k : Cfg) (n : Nat) (p : Plan α) (stop cur : Int) (hal : Al k stop cur p) (hend : stop < cur) :
    run k n p = List.replicate n none := by
  induction n with
  | zero => rfl
  | succ n ih => rw [run, next_ended k p stop cur hal hend, ih, List.replicate_succ]

/-- **no unchecked index leaves its range**: in a plan whose leaves share the window every call of
`Next` of every operator keeps `scalars[i]`, `out[i]` and `workers[i]` in range -/
theorem aligned_safe (d0 : α) (k : Cfg) (hs : 0 < k.step) (hB : 0 < k.B) :
    ∀ (p : Plan α) (stop cur : Int), Al k stop cur p → safeNow k p = true := by
  intro p
  induction p with
  | leaf f s c n => intro _ _ _; rfl
  | map g c ih =>
    intro stop cur hal
    simp only [safeNow, ih stop cur hal, Bool.true_and, (next_spec d0 k hs hB c stop cur hal).1, out]
    by_cases hend : stop < cur <;> simp [hend, walk_length_le]
  | zip g l r ihl ihr =>
    intro stop cur hal
    simp only [safeNow, ihl stop cur hal.1, ihr stop cur hal.2, Bool.and_self]
  -- both children return the batch of the same `walk` (`next_spec`): equal lengths
  | fn eoe g l r ihl ihr | co g l r ihl ihr =>
    intro stop cur hal
    simp only [safeNow, ihl stop cur hal.1, ihr stop cur hal.2, Bool.true_and,
      (next_spec d0 k hs hB l stop cur hal.1).1, (next_spec d0 k hs hB r stop cur hal.2).1, out]
    by_cases hend : stop < cur <;> simp [hend]
  | inv s c cache dflt pin ch ih =>
    intro stop cur hal
    rcases hal.2.2 with h | h
    · simp [safeNow, h]
    · simp [safeNow, ih pin pin h]
  | script bs => intro _ _ h; exact h.elim

theorem aligned_run_safe (d0 : α) (k : Cfg) (hs : 0 < k.step) (hB : 0 < k.B) :
    ∀ (n : Nat) (p : Plan α) (stop cur : Int), Al k stop cur p → runSafe k n p = true
  | 0, _, _, _, _ => rfl
  | n + 1, p, stop, cur, hal => by
    simp only [runSafe, aligned_safe d0 k hs hB p stop cur hal, Bool.true_and]
    exact aligned_run_safe d0 k hs hB n _ stop _ (next_spec d0 k hs hB p stop cur hal).2.1

theorem run_eq_leafStream (d0 : α) (w : Window) (hs : 0 < w.step) (B : Nat) (hB : 0 < B) :
    ∀ (n : Nat) (p : Plan α) (cur : Int), Al ⟨w.step, B⟩ w.stop cur p →
      (run ⟨w.step, B⟩ n p).filterMap id
        = (leafStream w B n cur).map fun ts => ts.map fun t => (t, den d0 p t)
  | 0, _, _, _ => rfl
  | n + 1, p, cur, hal => by
    by_cases hend : w.stop < cur
    · rw [run_ended _ _ p _ cur hal hend, leafStream_ended w B _ cur hend]
      simp
    · obtain ⟨p', hp, hal', hd⟩ := next_live d0 ⟨w.step, B⟩ hs hB p w.stop cur hal (by omega)
      have ih := run_eq_leafStream d0 w hs B hB n p' _ hal'
      rw [hd] at ih
      simp only [run, hp, leafStream_live w hs B n cur (by omega), List.filterMap_cons, id, List.map_cons, ih]

theorem run_is_grid (d0 : α) (w : Window) (hs : 0 < w.step) (hle : w.start ≤ w.stop) (B : Nat) (hB : 0 < B)
    (p : Plan α) (hal : Al ⟨w.step, B⟩ w.stop w.start p) (n : Nat) (hn : w.numSteps ≤ n * B) :
    ((run ⟨w.step, B⟩ n p).filterMap id).flatten = w.grid.map fun t => (t, den d0 p t) := by
  rw [run_eq_leafStream d0 w hs B hB n p w.start hal, ← List.map_flatten, leafStream_flatten w hs B hB,
    walk_eq_grid_of_le w hs hle _ hn]

end PromqlVerif.Streams
