/-
`eval` as a congruence: the value of a node over two contexts, at two times, for two lists of
children. A context enters a node's own computation only through its quirks and its `le` table;
everything else it is asked goes through what the selectors below the node read
(`matchingSeries`, the lookback, the reference time).
-/
import PromqlVerif.Proofs.EvalEqns
import PromqlVerif.Proofs.ListLemmas
namespace PromqlVerif
open Val

variable {V : Type} [Val V]

section selectors
variable {c₁ c₂ : Ctx V} {s₁ s₂ : VSel}

omit [Val V] in
theorem selectT_congr (hm : matchingSeries c₁ s₁ = matchingSeries c₂ s₂) (hl : c₁.lookback = c₂.lookback)
    {ref : Int} : selectT c₁ s₁ ref = selectT c₂ s₂ ref := by
  unfold selectT
  rw [hm, hl]

omit [Val V] in
theorem selectV_congr (hm : matchingSeries c₁ s₁ = matchingSeries c₂ s₂) (hl : c₁.lookback = c₂.lookback)
    {t₁ t₂ : Int} (hr : s₁.refTime c₁.start t₁ = s₂.refTime c₂.start t₂) :
    selectV c₁ s₁ t₁ = selectV c₂ s₂ t₂ := by
  unfold selectV
  rw [selectT_congr hm hl, hr]

theorem evalRangeFn_congr (hm : matchingSeries c₁ s₁ = matchingSeries c₂ s₂) {t₁ t₂ : Int}
    (hr : s₁.refTime c₁.start t₁ = s₂.refTime c₂.start t₂) {fn : String} {r : Int} :
    evalRangeFn c₁ fn s₁ r t₁ = evalRangeFn c₂ fn s₂ r t₂ := by
  unfold evalRangeFn
  rw [hm, hr]

end selectors

section nodes
variable {c₁ c₂ : Ctx V}

omit [Val V] in
theorem dedupCheck_congr (hq : c₁.q = c₂.q) : dedupCheck c₁ = dedupCheck c₂ := by
  funext v
  unfold dedupCheck
  rw [hq]

theorem histogramQuantile_congr (hq : c₁.q = c₂.q) (hpf : c₁.pf = c₂.pf) :
    histogramQuantile c₁ = histogramQuantile c₂ := by
  funext q v
  unfold histogramQuantile pfLookup
  rw [hq, hpf]

/-- `timestamp` of a selector reads the selection with its sample times or, under `@`, the matching
series directly - then the reference time plays no part, hence `hr` for unpinned selectors only -/
theorem tsBody_congr (hq : c₁.q = c₂.q) (hl : c₁.lookback = c₂.lookback) {s₁ s₂ : VSel}
    (hm : matchingSeries c₁ s₁ = matchingSeries c₂ s₂) (ho : s₁.origOffset = s₂.origOffset)
    (hat : s₁.atTs = s₂.atTs) {t : Int}
    (hr : s₁.atTs = none → s₁.refTime c₁.start t = s₂.refTime c₂.start t) {r : Except Err (Value V)} :
    tsBody c₁ t (.vsel s₁) r = tsBody c₂ t (.vsel s₂) r := by
  unfold tsBody
  simp only [dedupCheck_congr hq, hq, hat.symm]
  cases h : s₁.atTs with
  | none => simp only [selectT_congr hm hl, hr h]
  | some a => simp only [hm, hl, ho]

variable {t₁ t₂ : Int}

theorem eval_agg_congr {e₁ e₂ : Expr V} (h : eval c₁ t₁ e₁ = eval c₂ t₂ e₂) (hq : c₁.q = c₂.q)
    {op : String} {w : Bool} {g : List String} :
    eval c₁ t₁ (.agg op w g e₁) = eval c₂ t₂ (.agg op w g e₂) := by
  rw [eval, eval, h, dedupCheck_congr hq]

theorem eval_aggP_congr {p₁ p₂ e₁ e₂ : Expr V} (hp : eval c₁ t₁ p₁ = eval c₂ t₂ p₂)
    (h : eval c₁ t₁ e₁ = eval c₂ t₂ e₂) (hq : c₁.q = c₂.q) {op : String} {w : Bool} {g : List String} :
    eval c₁ t₁ (.aggP op w g p₁ e₁) = eval c₂ t₂ (.aggP op w g p₂ e₂) := by
  rw [eval, eval, hp, h, dedupCheck_congr hq]

theorem eval_bin_congr {l₁ l₂ r₁ r₂ : Expr V} (hl : eval c₁ t₁ l₁ = eval c₂ t₂ l₂)
    (hr : eval c₁ t₁ r₁ = eval c₂ t₂ r₂) (hq : c₁.q = c₂.q) {op : String} {b : Bool} {m : Matching} :
    eval c₁ t₁ (.bin op b m l₁ r₁) = eval c₂ t₂ (.bin op b m l₂ r₂) := by
  rw [eval, eval, hl, hr, dedupCheck_congr hq]

/-- A call sees the values of its arguments (`R`-related arguments have the same value) and, of
`time()`, the evaluation time. Of a single argument it also sees whether it is a matrix selector -
then a range function reads the selector - and `timestamp` sees the unwrapped form of its argument
(`hone`). -/
theorem eval_call_congr {R : Expr V → Expr V → Prop} {fn : String} {args₁ args₂ : List (Expr V)}
    (hargs : All2 R args₁ args₂) (hR : ∀ a₁ a₂, R a₁ a₂ → eval c₁ t₁ a₁ = eval c₂ t₂ a₂)
    (hq : c₁.q = c₂.q) (hpf : c₁.pf = c₂.pf)
    (htime : fn = "time" → t₁ = t₂)
    (hone : ∀ a₁ a₂, args₁ = [a₁] → args₂ = [a₂] → R a₁ a₂ →
      isMsel a₁ = isMsel a₂ ∧
      (∀ s₁ r₁ s₂ r₂, a₁ = .msel s₁ r₁ → a₂ = .msel s₂ r₂ →
        evalRangeFn c₁ fn s₁ r₁ t₁ = evalRangeFn c₂ fn s₂ r₂ t₂) ∧
      (fn = "timestamp" → ∀ r, tsBody c₁ t₁ a₁.unwrap r = tsBody c₂ t₂ a₂.unwrap r)) :
    eval c₁ t₁ (.call fn args₁) = eval c₂ t₂ (.call fn args₂) := by
  cases hargs with
  | nil =>
    rw [eval_call_none, eval_call_none]
    by_cases h : fn = "time"
    · rw [htime h]
    · simp only [h, if_false]
  | @cons a₁ a₂ _ _ ha hrest =>
    cases hrest with
    | nil =>
      obtain ⟨hm, hrange, hts⟩ := hone a₁ a₂ rfl rfl ha
      cases hma : isMsel a₂ with
      | true =>
        obtain ⟨s₂, r₂, rfl⟩ := isMsel_true hma
        obtain ⟨s₁, r₁, rfl⟩ := isMsel_true (hm.trans hma)
        rw [eval_rangecall, eval_rangecall, hrange s₁ r₁ s₂ r₂ rfl rfl]
      | false =>
        rw [hma] at hm
        by_cases hfn : fn = "timestamp"
        · subst hfn
          rw [eval_timestamp c₁ t₁ a₁ hm, eval_timestamp c₂ t₂ a₂ hma, hR _ _ ha, hts rfl]
        · rw [eval_call1 c₁ t₁ fn a₁ hm hfn, eval_call1 c₂ t₂ fn a₂ hma hfn, hR _ _ ha]
          unfold call1
          rw [dedupCheck_congr hq]
    | cons hb hrest =>
      cases hrest with
      | nil =>
        rw [eval_call2, eval_call2, hR _ _ ha, hR _ _ hb]
        unfold call2
        rw [dedupCheck_congr hq, histogramQuantile_congr hq hpf]
      | cons hd hrest =>
        cases hrest with
        | nil =>
          rw [eval_call3, eval_call3, hR _ _ ha, hR _ _ hb, hR _ _ hd]
          unfold call3
          rw [dedupCheck_congr hq]
        | cons _ _ => rw [eval_call_many, eval_call_many]

/-- `eval_call_congr` for one argument list over two contexts, the arguments' values being equal -/
theorem eval_call_congr_ctx {fn : String} {args : List (Expr V)}
    (hargs : ∀ a ∈ args, eval c₁ t₁ a = eval c₂ t₂ a) (hq : c₁.q = c₂.q) (hpf : c₁.pf = c₂.pf)
    (htime : fn = "time" → t₁ = t₂)
    (hrange : ∀ s r, args = [.msel s r] → evalRangeFn c₁ fn s r t₁ = evalRangeFn c₂ fn s r t₂)
    (hts : fn = "timestamp" → ∀ a, args = [a] → ∀ r, tsBody c₁ t₁ a.unwrap r = tsBody c₂ t₂ a.unwrap r) :
    eval c₁ t₁ (.call fn args) = eval c₂ t₂ (.call fn args) := by
  apply eval_call_congr (all2_self hargs) (fun _ _ h => h) hq hpf htime
  rintro a _ rfl h _
  cases h
  refine ⟨rfl, ?_, fun hfn => hts hfn a rfl⟩
  rintro s r _ _ rfl h
  cases h
  exact hrange s r rfl

end nodes

end PromqlVerif
