/-
The push-down of topk / bottomk: selecting the k extreme samples of every partition and then the
k extreme samples among those is a selection of the k extreme samples of the union - for any
number of partitions, any sizes, any arrival orders, ties broken arbitrarily at both levels.
"A selection" is what `kSelect_extreme`/`kSelect_length` establish of the engine's bounded heap.
`filter_flatMap_groups` takes this from one group to the grouped aggregation.
-/
import PromqlVerif.Proofs.HeapOrder
import PromqlVerif.Sem
import PromqlVerif.Proofs.ListLemmas
namespace PromqlVerif
open Val

variable {V : Type} [Val V] {α : Type}

/-- `S` is a selection of `k` extreme samples of `items`: kept plus dropped is the group, it keeps
`min k n`, and nothing kept is strictly below (in heap order) anything dropped -/
def IsSel (top : Bool) (k : Nat) (items S : List (α × V)) : Prop :=
  ∃ dropped, (S ++ dropped).Perm items ∧ S.length = min k items.length ∧
    ∀ d ∈ dropped, ∀ y ∈ S, less top y.2 d.2 = false

theorem IsSel.subset {top : Bool} {k : Nat} {items S : List (α × V)} (h : IsSel top k items S) : S ⊆ items :=
  let ⟨_, hp, _⟩ := h
  fun _ hy => hp.subset (List.mem_append_left _ hy)

theorem IsSel.perm {top : Bool} {k : Nat} {items items' S : List (α × V)} (h : IsSel top k items S)
    (hp : items.Perm items') : IsSel top k items' S :=
  let ⟨d, h1, h2, h3⟩ := h
  ⟨d, h1.trans hp, by rw [h2, hp.length_eq], h3⟩

section laws
variable {P : V → Prop} (L : LtLaws P) (top : Bool)
include L

theorem kSelect_isSel (k : Nat) (hk : 1 ≤ k) (items : List (α × V))
    (hitems : ∀ x ∈ items, P x.2 ∧ isNaN x.2 = false) : IsSel top k items (kSelect top k items) := by
  obtain ⟨d, h1, h2⟩ := kSelect_extreme L top k hk items hitems
  exact ⟨d, h1, kSelect_length top k hk items, h2⟩

/-- replacing a part of the group by a selection of it does not change what a selection is -/
theorem isSel_replace (k : Nat) (A SA B S : List (α × V)) (hP : ∀ x ∈ A ++ B, P x.2)
    (h1 : IsSel top k A SA) (h2 : IsSel top k (SA ++ B) S) : IsSel top k (A ++ B) S := by
  have hSA : ∀ z ∈ SA, P z.2 := fun z hz => hP z (List.mem_append_left _ (h1.subset hz))
  have hS : ∀ y ∈ S, P y.2 := fun y hy => (List.mem_append.mp (h2.subset hy)).elim (hSA y)
    fun h => hP y (List.mem_append_right _ h)
  obtain ⟨dA, pA, lA, eA⟩ := h1
  obtain ⟨dS, pS, lS, eS⟩ := h2
  have hlenA : SA.length + dA.length = A.length := by rw [← pA.length_eq, List.length_append]
  refine ⟨dS ++ dA, ?_, ?_, ?_⟩
  · -- S ++ dS ++ dA ~ SA ++ B ++ dA ~ SA ++ dA ++ B ~ A ++ B
    rw [← List.append_assoc]
    refine (pS.append_right dA).trans (.trans ?_ (pA.append_right B))
    rw [List.append_assoc, List.append_assoc]
    exact List.perm_append_comm.append_left SA
  · rw [lS, List.length_append, List.length_append, lA, min_min_add]
  · intro d hd y hy
    rcases List.mem_append.mp hd with hd | hd
    · exact eS d hd y hy
    · -- `A` dropped `d`, so `SA` has `k` members, none below `d`. Were `y` below `d`, they would all be
      -- strictly above `y`, hence in `S` (nothing in `dS` is), which has at most `k` members, `y` among them.
      cases hlt : less top y.2 d.2 with
      | false => rfl
      | true =>
        have hPd : P d.2 := hP d (List.mem_append_left _ (pA.subset (List.mem_append_right _ hd)))
        have hbeat : ∀ z ∈ SA, less top y.2 z.2 = true := fun z hz => by
          cases h : less top y.2 z.2 with
          | true => rfl
          | false => exact (less_negtrans L top _ _ _ (hS y hy) (hSA z hz) hPd h (eA d hd z hz)).symm.trans hlt
        have hfull : k ≤ SA.length := by
          have : 0 < dA.length := List.length_pos_of_mem hd
          omega
        have hc := pS.countP_eq fun e => less top y.2 e.2
        rw [List.countP_append, List.countP_append, List.countP_eq_length.mpr hbeat,
          List.countP_eq_zero (l := dS) |>.mpr fun e he => by rw [eS e he y hy]; exact Bool.false_ne_true] at hc
        have hy' : List.countP (fun e => less top y.2 e.2) S ≠ S.length := fun h => by
          have := List.countP_eq_length.mp h y hy
          rw [less_irrefl L top y.2 (hS y hy)] at this
          cases this
        -- k ≤ |SA| ≤ members of `S` above `y` < |S| ≤ k
        exact absurd (Nat.lt_of_le_of_lt (Nat.le_trans hfull (Nat.le.intro hc.symm))
          (Nat.lt_of_lt_of_le (Nat.lt_of_le_of_ne List.countP_le_length hy') (lS ▸ Nat.min_le_left _ _)))
          (Nat.lt_irrefl k)

/-- **any number of partitions**: a selection among the partitions' selections (and whatever else
`X` is in the group) is a selection of the union -/
theorem isSel_parts (k : Nat) (ps : List (List (α × V) × List (α × V)))
    (hps : ∀ p ∈ ps, IsSel top k p.1 p.2) (X S : List (α × V))
    (hP : ∀ x ∈ X ++ (ps.map (·.1)).flatten, P x.2)
    (h : IsSel top k (X ++ (ps.map (·.2)).flatten) S) : IsSel top k (X ++ (ps.map (·.1)).flatten) S := by
  induction ps generalizing X with
  | nil => simpa using h
  | cons p ps ih =>
    simp only [List.map_cons, List.flatten_cons] at h hP ⊢
    have hps' := fun q hq => hps q (List.mem_cons_of_mem _ hq)
    have hsub : (ps.map (·.2)).flatten ⊆ (ps.map (·.1)).flatten := fun x hx => by
      obtain ⟨l, hl, hxl⟩ := List.mem_flatten.mp hx
      obtain ⟨q, hq, rfl⟩ := List.mem_map.mp hl
      exact List.mem_flatten.mpr ⟨q.1, List.mem_map_of_mem hq, (hps' q hq).subset hxl⟩
    rw [← List.append_assoc] at hP ⊢
    refine ih hps' (X ++ p.1) hP ?_
    -- bring `p.2` to the front, replace it by `p.1`, put that behind `X`
    refine (isSel_replace L top k p.1 p.2 _ S ?_ (hps p List.mem_cons_self)
      (h.perm (List.perm_append_comm_assoc ..))).perm ?_
    · intro x hx
      apply hP
      simp only [List.mem_append] at hx ⊢
      rcases hx with h | h | h
      · exact .inl (.inr h)
      · exact .inl (.inl h)
      · exact .inr (hsub h)
    · rw [← List.append_assoc]
      exact List.perm_append_comm.append_right _

end laws

omit [Val V] in
/-- selecting within every group and looking at one group's key afterwards is selecting within
that group - for any selection that returns members of its input -/
theorem filter_flatMap_groups (key : Labels → Labels) (sel : Vec V → Vec V)
    (hsub : ∀ l, ∀ y ∈ sel l, y ∈ l) (X : Vec V) (kk : Labels) :
    (((groupBy (fun (x : Labels × V) => key x.1) X).flatMap fun g => sel g.2).filter fun y => key y.1 == kk)
      = sel (X.filter fun x => key x.1 == kk) := by
  -- what is selected from the group of `k` has key `k`
  have hkey : ∀ k, ∀ y ∈ sel (X.filter fun x => key x.1 == k), key y.1 = k := fun k y hy =>
    beq_iff_eq.mp (List.mem_filter.mp (hsub _ y hy)).2
  unfold groupBy
  rw [List.flatMap_map, List.filter_flatMap,
    flatMap_eq_single (fun k => (sel (X.filter fun x => key x.1 == k)).filter fun y => key y.1 == kk) kk _
      (nodup_dedup _)]
  · exact List.filter_eq_self.mpr fun y hy => beq_iff_eq.mpr (hkey kk y hy)
  · intro k _ hne
    exact List.filter_eq_nil_iff.mpr fun y hy he => hne ((hkey k y hy).symm.trans (beq_iff_eq.mp he))
  · -- no group has key `kk`: nothing to select from
    intro hnot
    rw [Classical.not_not.mp (mt (mem_dedup_map_iff (fun x : Labels × V => key x.1) X kk).mpr hnot),
      List.subset_nil.mp (hsub [])]
    rfl

end PromqlVerif
