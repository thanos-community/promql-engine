/-
The engine's hints (handed down the recursion of `newOperator`) are the reference engine's (derived
from each selector's path), for every expression: by induction over the expression, carrying "the
hints in hand are what the path so far yields".
-/
import PromqlVerif.Hints
import PromqlVerif.Proofs.ExprInd
namespace PromqlVerif

variable {V : Type}

def Agrees (step : Int) (h : Hint) (path : List (Expr V)) : Prop :=
  h.fn = refFunc path ∧ h.by_ = (refGroup path).1 ∧ h.grouping = (refGroup path).2 ∧
    h.step = step ∧ h.range = 0

/-! Both sides treat an argument that is not a matrix selector like any other sub-expression. -/

theorem callArgs_cons (hc : Hint) (a : Expr V) (as : List (Expr V)) (hne : ∀ s r, a ≠ .msel s r) :
    engHints.callArgs hc (a :: as) = engHints hc a ++ engHints.callArgs hc as := by
  rw [engHints.callArgs]
  exact hne

theorem refArgs_cons (step : Int) (p : List (Expr V)) (ev : Int) (a : Expr V) (as : List (Expr V))
    (hne : ∀ s r, a ≠ .msel s r) :
    refHints.refArgs step p ev (a :: as)
      = ((refHints step p ev a).1 ++ (refHints.refArgs step p (refHints step p ev a).2 as).1,
         (refHints.refArgs step p (refHints step p ev a).2 as).2) := by
  rw [refHints.refArgs]
  exact hne

/-- the arguments of a call, given the claim for each of them: `hc` is the call's hint, `p` the path
with the call in front; the reference's `evalRange` is 0 before and after every argument -/
theorem args_eq_ref_of (step : Int) (hc : Hint) (p : List (Expr V)) (ha : Agrees step hc p)
    (hcall : hc.by_ = false ∧ hc.grouping = []) (args : List (Expr V))
    (ih : ∀ a ∈ args, ∀ h path, Agrees step h path → refHints step path 0 a = (engHints h a, 0)) :
    refHints.refArgs step p 0 args = (engHints.callArgs hc args, 0) := by
  induction args with
  | nil => rw [engHints.callArgs, refHints.refArgs]
  | cons a as ihas =>
    have hrest := ihas fun x hx => ih x (List.mem_cons_of_mem _ hx)
    cases a with
    | msel s r =>
      -- the vector selector inside: its parent is the matrix selector, so no grouping, and the
      -- function of the call
      rw [engHints.callArgs, refHints.refArgs, hrest]
      obtain ⟨h1, _, _, h4, _⟩ := ha
      obtain ⟨fn, by_, grouping, step', range⟩ := hc
      simp only [refFunc, refGroup] at *
      rw [← h1, ← h4, hcall.1, hcall.2]
    | _ =>
      rw [callArgs_cons _ _ _ (by intro s r h; cases h), refArgs_cons _ _ _ _ _ (by intro s r h; cases h),
        ih _ List.mem_cons_self hc p ha, hrest]

theorem eng_eq_ref (step : Int) (e : Expr V) :
    ∀ (h : Hint) (path : List (Expr V)), Agrees step h path → refHints step path 0 e = (engHints h e, 0) := by
  induction e using Expr.induct with
  | vsel s =>
    intro h path ⟨h1, h2, h3, h4, h5⟩
    rw [engHints, refHints, ← h1, ← h2, ← h3, ← h4, ← h5]
  | call fn args ih =>
    intro h path ha
    have hc : Agrees step (h.withFn fn false []) (.call fn args :: path) := ⟨rfl, rfl, rfl, ha.2.2.2⟩
    rw [engHints, refHints]
    exact args_eq_ref_of step _ _ hc ⟨rfl, rfl⟩ args ih
  | agg op w g e ih =>
    intro h path ha
    have hc : Agrees step (h.withFn op (!w) g) (.agg op w g e :: path) := ⟨rfl, rfl, rfl, ha.2.2.2⟩
    rw [engHints, refHints]
    exact ih _ _ hc
  | aggP op w g p e ihp ihe =>
    intro h path ha
    have hc : Agrees step (h.withFn op (!w) g) (.aggP op w g p e :: path) := ⟨rfl, rfl, rfl, ha.2.2.2⟩
    rw [engHints, refHints, ihe _ _ hc, ihp _ _ hc]
  | bin op b m l r ihl ihr =>
    intro h path ha
    have hc : Agrees step h.clear (.bin op b m l r :: path) := ⟨rfl, rfl, rfl, ha.2.2.2⟩
    rw [engHints, refHints, ihl _ _ hc, ihr _ _ hc]
  | neg e ih | pos e ih | paren e ih | stepInv e ih | subq e ih =>
    -- a wrapper keeps the function and is no aggregation: the grouping goes
    intro h path ha
    rw [engHints, refHints]
    apply ih
    exact ⟨ha.1, rfl, rfl, ha.2.2.2⟩
  | num | str | msel | coalesce | remote =>
    intro h path _
    rw [engHints, refHints] <;> (intros; contradiction)

theorem args_eq_ref (step : Int) (hc : Hint) (p : List (Expr V)) (ha : Agrees step hc p)
    (hcall : hc.by_ = false ∧ hc.grouping = []) :
    ∀ args : List (Expr V), refHints.refArgs step p 0 args = (engHints.callArgs hc args, 0) :=
  fun args => args_eq_ref_of step hc p ha hcall args fun a _ => eng_eq_ref step a

end PromqlVerif
