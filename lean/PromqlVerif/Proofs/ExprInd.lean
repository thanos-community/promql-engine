/-
Structural induction over `Expr` with its nested lists of arguments: for `call` and `coalesce` the
hypothesis is that the claim holds of every member of the list.
-/
import PromqlVerif.Expr
namespace PromqlVerif

variable {V : Type}

theorem Expr.induct {motive : Expr V → Prop}
    (num : ∀ v, motive (.num v))
    (str : motive .str)
    (vsel : ∀ s, motive (.vsel s))
    (msel : ∀ s r, motive (.msel s r))
    (subq : ∀ e, motive e → motive (.subq e))
    (call : ∀ fn args, (∀ a ∈ args, motive a) → motive (.call fn args))
    (agg : ∀ op w g e, motive e → motive (.agg op w g e))
    (aggP : ∀ op w g p e, motive p → motive e → motive (.aggP op w g p e))
    (bin : ∀ op b m l r, motive l → motive r → motive (.bin op b m l r))
    (neg : ∀ e, motive e → motive (.neg e))
    (pos : ∀ e, motive e → motive (.pos e))
    (paren : ∀ e, motive e → motive (.paren e))
    (stepInv : ∀ e, motive e → motive (.stepInv e))
    (coalesce : ∀ es, (∀ a ∈ es, motive a) → motive (.coalesce es))
    (remote : ∀ i e, motive e → motive (.remote i e)) :
    ∀ e, motive e :=
  Expr.rec (motive_2 := fun l => ∀ a ∈ l, motive a)
    num str vsel msel subq call agg aggP bin neg pos paren stepInv coalesce remote
    (fun _ h => nomatch h)
    (fun _ _ ha has x hx => (List.mem_cons.mp hx).elim (fun h => h ▸ ha) (has x))

end PromqlVerif
