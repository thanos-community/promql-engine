/-
The equations of `eval`, one per kind of node, stated once: what the overlapping pattern match on
calls amounts to for each shape of the argument list (`call1` / `call2` / `call3`, `tsBody`: the
value of the node as a function of the values of its arguments), and the forms the nodes take with
the duplicate check off, as in the engine.
-/
import PromqlVerif.Sem
import PromqlVerif.Dist -- for `isMsel`
namespace PromqlVerif
open Val

variable {V : Type} [Val V]

omit [Val V] in
theorem dedupCheck_ok {c : Ctx V} (hq : c.q.noDupCheck = true) (v : Vec V) : dedupCheck c v = .ok (.vec v) := by
  simp only [dedupCheck, hq, Bool.not_true, Bool.false_and, Bool.false_eq_true, if_false]

def call1 (c : Ctx V) (fn : String) (r : Except Err (Value V)) : Except Err (Value V) :=
  if fn = "scalar" then do
    let v ← (← r).asVec
    match v with
    | [x] => pure (.scal x.2)
    | _ => pure (.scal nan)
  else if fn = "vector" then do
    let s ← (← r).asScal
    pure (.vec [([], s)])
  else if simpleFns.contains fn then do
    let v ← (← r).asVec
    dedupCheck c (v.map fun x => (x.1.dropName, applySimple fn x.2))
  else .error .unsupported

omit [Val V] in
theorem isMsel_false_ne (a : Expr V) (h : isMsel a = false) : ∀ s r, a ≠ .msel s r := by
  intro s r he
  subst he
  cases h

/-- a bare matrix selector has no value -/
theorem isMsel_of_eval_ok {c : Ctx V} {t : Int} {a : Expr V} {x : Value V} (ha : eval c t a = .ok x) :
    isMsel a = false := by
  cases a with
  | msel s r => rw [eval] at ha; cases ha
  | _ => rfl

omit [Val V] in
theorem isMsel_true {a : Expr V} (h : isMsel a = true) : ∃ s r, a = .msel s r := by
  cases a with
  | msel s r => exact ⟨s, r, rfl⟩
  | _ => cases h

theorem eval_call1 (c : Ctx V) (t : Int) (fn : String) (a : Expr V) (hm : isMsel a = false)
    (hts : fn ≠ "timestamp") : eval c t (.call fn [a]) = call1 c fn (eval c t a) := by
  have hne := isMsel_false_ne a hm
  unfold call1
  by_cases h1 : fn = "scalar"
  · subst h1
    -- `rw [eval]` takes the equation of the alternative that matches and leaves one side goal per
    -- earlier overlapping pattern: `hne` (the argument is no matrix selector) or, for the catch-all
    -- alternative, a fact about the function name or the length of the argument list; `skip` leaves
    -- the main goal, where it is not closed by `rfl`, to the `if_neg` / `if_pos` line that follows
    rw [eval] <;> first | rfl | exact hne | skip
  · by_cases h2 : fn = "vector"
    · subst h2
      rw [eval] <;> first | exact hne | skip
      rw [if_neg h1, if_pos rfl]
    · simp only [h1, h2, if_false]
      rw [eval] <;> first | rfl | assumption | exact hne | skip

/-- `timestamp`, `scalar`, `vector` have alternatives of their own in `eval` and in `engOp` -/
theorem simpleFns_ne {fn : String} (hfn : simpleFns.contains fn = true) :
    fn ≠ "timestamp" ∧ fn ≠ "scalar" ∧ fn ≠ "vector" := by
  refine ⟨?_, ?_, ?_⟩ <;> (rintro rfl; revert hfn; decide +kernel)

theorem eval_call_simple (c : Ctx V) (t : Int) {fn : String} (hfn : simpleFns.contains fn = true) (a : Expr V)
    (hm : isMsel a = false) :
    eval c t (.call fn [a]) = (do
      let v ← (← eval c t a).asVec
      dedupCheck c (v.map fun x => (x.1.dropName, applySimple fn x.2))) := by
  obtain ⟨h1, h2, h3⟩ := simpleFns_ne hfn
  rw [eval_call1 c t fn a hm h1, call1, if_neg h2, if_neg h3, if_pos hfn]

def call2 (c : Ctx V) (fn : String) (ra rb : Except Err (Value V)) : Except Err (Value V) :=
  if fn = "clamp_min" then do
    let v ← (← ra).asVec
    let lo ← (← rb).asScal
    dedupCheck c (v.map fun x => (x.1.dropName, maxGo lo x.2))
  else if fn = "clamp_max" then do
    let v ← (← ra).asVec
    let hi ← (← rb).asScal
    dedupCheck c (v.map fun x => (x.1.dropName, minGo hi x.2))
  else if fn = "histogram_quantile" then do
    let q ← (← ra).asScal
    let v ← (← rb).asVec
    dedupCheck c (histogramQuantile c q v)
  else .error .unsupported

theorem eval_call2 (c : Ctx V) (t : Int) (fn : String) (a b : Expr V) :
    eval c t (.call fn [a, b]) = call2 c fn (eval c t a) (eval c t b) := by
  unfold call2
  by_cases h1 : fn = "clamp_min"
  · subst h1
    rw [eval]
    rfl
  · by_cases h2 : fn = "clamp_max"
    · subst h2
      rw [eval]
      rw [if_neg h1, if_pos rfl]
    · by_cases h3 : fn = "histogram_quantile"
      · subst h3
        rw [eval]
        rw [if_neg h1, if_neg h2, if_pos rfl]
      · simp only [h1, h2, h3, if_false]
        rw [eval] <;> intros <;> first | contradiction | (rename_i hh; cases hh)

theorem call2_clamp_min (c : Ctx V) (v : Vec V) (lo : V) :
    call2 c "clamp_min" (.ok (.vec v)) (.ok (.scal lo)) = dedupCheck c (v.map fun x => (x.1.dropName, maxGo lo x.2)) :=
  rfl

theorem call2_clamp_max (c : Ctx V) (v : Vec V) (hi : V) :
    call2 c "clamp_max" (.ok (.vec v)) (.ok (.scal hi)) = dedupCheck c (v.map fun x => (x.1.dropName, minGo hi x.2)) :=
  rfl

def call3 (c : Ctx V) (fn : String) (ra rb rc : Except Err (Value V)) : Except Err (Value V) :=
  if fn = "clamp" then do
    let v ← (← ra).asVec
    let lo ← (← rb).asScal
    let hi ← (← rc).asScal
    if lt hi lo then pure (.vec [])
    else dedupCheck c (v.map fun x => (x.1.dropName, maxGo lo (minGo hi x.2)))
  else .error .unsupported

theorem eval_call3 (c : Ctx V) (t : Int) (fn : String) (a b d : Expr V) :
    eval c t (.call fn [a, b, d]) = call3 c fn (eval c t a) (eval c t b) (eval c t d) := by
  unfold call3
  by_cases h1 : fn = "clamp"
  · subst h1
    rw [eval]
    rfl
  · simp only [h1, if_false]
    rw [eval] <;> intros <;> first | contradiction | (rename_i hh; cases hh)

theorem call3_clamp (c : Ctx V) (v : Vec V) (lo hi : V) :
    call3 c "clamp" (.ok (.vec v)) (.ok (.scal lo)) (.ok (.scal hi))
      = if lt hi lo then .ok (.vec []) else dedupCheck c (v.map fun x => (x.1.dropName, maxGo lo (minGo hi x.2))) :=
  rfl

/-- the value of `timestamp(a)` as a function of the unwrapped form `u` of `a` and of `a`'s value -/
def tsBody (c : Ctx V) (t : Int) (u : Expr V) (r : Except Err (Value V)) : Except Err (Value V) :=
  match u with
  | .vsel s =>
    if c.q.timestampIsStepTime then do
      let v ← (← r).asVec
      dedupCheck c (v.map fun x => (x.1.dropName, div (ofInt t) (ofInt 1000)))
    else
      match s.atTs with
      | none =>
        dedupCheck c ((selectT c s (s.refTime c.start t)).map fun x =>
          (x.1.dropName, div (ofInt x.2.1) (ofInt 1000)))
      | some a =>
        let o := s.origOffset
        let hi := if o ≥ 0 then a - o else a
        let lo := if o ≥ 0 then a - c.lookback else a - c.lookback - o
        dedupCheck c ((matchingSeries c s).filterMap fun sr =>
          match latestAtOrBefore sr.samples hi with
          | some ⟨ts, .num _⟩ =>
            if ts < lo then none else some (sr.labels.dropName, div (ofInt ts) (ofInt 1000))
          | _ => none)
  | _ => do
    let v ← (← r).asVec
    dedupCheck c (v.map fun x => (x.1.dropName, div (ofInt t) (ofInt 1000)))

theorem eval_timestamp (c : Ctx V) (t : Int) (a : Expr V) (hm : isMsel a = false) :
    eval c t (.call "timestamp" [a]) = tsBody c t a.unwrap (eval c t a) := by
  have hne := isMsel_false_ne a hm
  unfold tsBody
  rw [eval] <;> first | rfl | exact hne | skip

theorem tsBody_other (c : Ctx V) (t : Int) (u u' : Expr V) (hu : ∀ s, u ≠ .vsel s) (hu' : ∀ s, u' ≠ .vsel s)
    (r : Except Err (Value V)) : tsBody c t u' r = tsBody c t u r := by
  have h : ∀ w : Expr V, (∀ s, w ≠ .vsel s) → tsBody c t w r = tsBody c t .str r := by
    intro w hw
    cases w <;> first | rfl | exact absurd rfl (hw _)
  rw [h u hu, h u' hu']

theorem eval_rangecall (c : Ctx V) (t : Int) (fn : String) (s : VSel) (r : Int) :
    eval c t (.call fn [.msel s r])
      = if rangeFnNames.contains fn then .ok (.vec (evalRangeFn c fn s r t)) else .error .unsupported := by
  rw [eval] <;> intros <;> contradiction

theorem eval_call_none (c : Ctx V) (t : Int) (fn : String) :
    eval c t (.call fn []) = if fn = "time" then .ok (.scal (div (ofInt t) (ofInt 1000)))
      else if fn = "pi" then .ok (.scal pi) else .error .unsupported := by
  by_cases h1 : fn = "time"
  · subst h1; rw [eval]; rfl
  · by_cases h2 : fn = "pi"
    · subst h2; rw [eval]; rw [if_neg h1, if_pos rfl]
    · simp only [h1, h2, if_false]
      rw [eval] <;> intros <;> first | contradiction | (rename_i hh; cases hh)

theorem eval_call_many (c : Ctx V) (t : Int) (fn : String) (a b d e : Expr V) (rest : List (Expr V)) :
    eval c t (.call fn (a :: b :: d :: e :: rest)) = .error .unsupported := by
  rw [eval] <;> intros <;> first | contradiction | (rename_i hh; cases hh)

/-- `hr`: the operand's outcome is a vector or an error; both pass through -/
theorem eval_agg_noDup (c : Ctx V) (hq : c.q.noDupCheck = true) (t : Int) (op : String) (w : Bool)
    (g : List String) (x : Expr V) (r : Except Err (Vec V)) (hr : eval c t x = r.map Value.vec) :
    eval c t (.agg op w g x) = (r >>= aggregate op w g nan).map Value.vec := by
  rw [eval, hr]
  cases r with
  | error e => rfl
  | ok v =>
    show aggregate op w g nan v >>= dedupCheck c = (aggregate op w g nan v).map Value.vec
    cases aggregate op w g nan v with
    | error e => rfl
    | ok out => exact dedupCheck_ok hq out

theorem eval_agg (c : Ctx V) (hq : c.q.noDupCheck = true) (t : Int) (op : String) (w : Bool) (g : List String)
    (e : Expr V) (v out : Vec V) (hval : eval c t e = .ok (.vec v)) (hagg : aggregate op w g nan v = .ok out) :
    eval c t (.agg op w g e) = .ok (.vec out) := by
  rw [eval_agg_noDup c hq t op w g e (.ok v) hval]
  show (aggregate op w g nan v).map Value.vec = _
  rw [hagg]
  rfl

/-- what `scalar()` makes of the samples of a step -/
def singleVal {α : Type} (xs : List (α × V)) : V :=
  match xs with
  | [x] => x.2
  | _ => nan

section
variable {c : Ctx V} {t : Int} {a : Expr V}

theorem eval_simple (hq : c.q.noDupCheck = true) {fn : String} {v : Vec V} (hfn : simpleFns.contains fn = true)
    (ha : eval c t a = .ok (.vec v)) :
    eval c t (.call fn [a]) = .ok (.vec (v.map fun x => (x.1.dropName, applySimple fn x.2))) := by
  rw [eval_call_simple c t hfn a (isMsel_of_eval_ok ha), ha]
  exact dedupCheck_ok hq _

theorem eval_scalar {v : Vec V} (ha : eval c t a = .ok (.vec v)) :
    eval c t (.call "scalar" [a]) = .ok (.scal (singleVal v)) := by
  rw [eval_call1 c t _ a (isMsel_of_eval_ok ha) (by decide), ha]
  cases v with
  | nil => rfl
  | cons x xs => cases xs <;> rfl

theorem eval_vector {s : V} (ha : eval c t a = .ok (.scal s)) :
    eval c t (.call "vector" [a]) = .ok (.vec [([], s)]) := by
  rw [eval_call1 c t _ a (isMsel_of_eval_ok ha) (by decide), ha]
  rfl

theorem eval_bin_vs (hq : c.q.noDupCheck = true) (op : String) (bl : Bool) (m : Matching) {l r : Expr V}
    (scalarLeft : Bool) {v : Vec V} {s : V} (hv : eval c t (bif scalarLeft then r else l) = .ok (.vec v))
    (hs : eval c t (bif scalarLeft then l else r) = .ok (.scal s)) :
    eval c t (.bin op bl m l r) = .ok (.vec (vectorScalarBinop op bl v s scalarLeft)) := by
  rw [eval]
  cases scalarLeft
  · rw [cond_false] at hv hs; rw [hv, hs]; exact dedupCheck_ok hq _
  · rw [cond_true] at hv hs; rw [hv, hs]; exact dedupCheck_ok hq _

end

theorem eval_timestamp_vsel (c : Ctx V) (hq : c.q.noDupCheck = true) (hts : c.q.timestampIsStepTime = false)
    (s : VSel) (hat : s.atTs = none) (t : Int) :
    eval c t (.call "timestamp" [.vsel s]) = .ok (.vec ((selectT c s (s.refTime c.start t)).map fun x =>
      (x.1.dropName, div (ofInt x.2.1) (ofInt 1000)))) := by
  rw [eval_timestamp c t (.vsel s) rfl]
  simp only [tsBody, Expr.unwrap, hts, Bool.false_eq_true, if_false, hat]
  exact dedupCheck_ok hq _

end PromqlVerif
