/-
Where the engine's vector-to-vector operator is right: a one-to-one match in which no two series
of a side share a match key. Then the static hash join is a partial bijection between the two
series lists, the first pass fills one slot per left sample, the second pass probes exactly the
partner's slot, nothing is reported as a duplicate - and the step's output is the reference
engine's, up to order. (Everything outside this - several series per key on either side, the
group modifiers - is the known finding KF-binary-matching.)
The two passes are first described for any cardinality (`*_of_nodup`): as long as the slots that
the samples of a side map to are pairwise distinct, a pass does not fail and is a `filterMap` over
`slotPairs`.
-/
import PromqlVerif.Eng
import PromqlVerif.Sem
import PromqlVerif.Proofs.Den
import PromqlVerif.Proofs.Folds
namespace PromqlVerif
open Val

variable {V : Type} [Val V]

omit [Val V] in
theorem lhsStep_foldlM (card : Card) (ps pre : List (Nat × V)) (h : ((pre ++ ps).map (·.1)).Nodup) :
    ps.foldlM (fun s p => lhsStep card s p.1 p.2) pre = .ok (pre ++ ps) := by
  induction ps generalizing pre with
  | nil => rw [List.append_nil]; rfl
  | cons p ps ih =>
    have hfresh : pre.any (·.1 == p.1) = false := by
      rw [List.any_eq_false]
      intro q hq
      rw [List.map_append] at h
      simpa using (List.nodup_append.mp h).2.2 q.1 (List.mem_map_of_mem hq) p.1 (List.mem_map_of_mem List.mem_cons_self)
    rw [List.foldlM_cons, lhsStep, hfresh, Bool.and_false, if_neg Bool.false_ne_true]
    show ps.foldlM _ (pre ++ [p]) = _
    rw [ih (pre ++ [p]) (by rwa [List.append_assoc]), List.append_assoc]
    rfl

omit [Val V] in
theorem lhsPass_of_nodup (card : Card) (j : Join) (lhs : IdVec V)
    (h : ((slotPairs (lhsOutsOf card j) lhs).map (·.1)).Nodup) :
    lhsPass card j lhs = .ok (slotPairs (lhsOutsOf card j) lhs) := by
  rw [lhsPass, outerFold_eq]
  exact lhsStep_foldlM card _ [] h

theorem lhsOutsOf_oneToOne (j : Join) : lhsOutsOf .oneToOne j = fun id => (j.highIdx.getD id none).toList := rfl

theorem rhsOutsOf_oneToOne (j : Join) : rhsOutsOf .oneToOne j = fun id => j.lowIdx.getD id [] := rfl

/-- with at most one output per sample and no output shared by two samples, the first pass never
fails and fills the slots in sample order -/
theorem lhsPass_eq (j : Join) (lhs : IdVec V)
    (hinj : ∀ x ∈ lhs, ∀ y ∈ lhs, ∀ o, j.highIdx.getD x.1 none = some o → j.highIdx.getD y.1 none = some o → x.1 = y.1)
    (hids : (lhs.map (·.1)).Pairwise (· ≠ ·)) :
    lhsPass .oneToOne j lhs = .ok (lhs.filterMap fun x => (j.highIdx.getD x.1 none).map fun o => (o, x.2)) := by
  rw [← slotPairs_toList fun id => j.highIdx.getD id none]
  exact lhsPass_of_nodup .oneToOne j lhs (nodup_slotPairs_toList _ lhs hids hinj)

/-- what a right-hand sample contributes: it probes the slot of its one output, if it has one -/
def probe (op : String) (bool : Bool) (j : Join) (slotVal : Nat → Option V) (y : Nat × V) : Option (Nat × V) :=
  match j.lowIdx.getD y.1 [] with
  | [o] => (slotVal o).bind fun lv => emit op bool o lv y.2
  | _ => none

theorem vbStep_foldlM (op : String) (bool : Bool) (card : Card) (slotVal : Nat → Option V) (ps : List (Nat × V))
    (hnd : (ps.map (·.1)).Nodup) (out : IdVec V) (seen : List Nat) (hseen : ∀ p ∈ ps, p.1 ∉ seen) :
    (ps.foldlM (fun st p => vbStep op bool card slotVal st p.1 p.2) (out, seen)).map (·.1)
      = .ok (out ++ ps.filterMap fun p => (slotVal p.1).bind fun lv => emit op bool p.1 lv p.2) := by
  induction ps generalizing out seen with
  | nil => rw [List.filterMap_nil, List.append_nil]; rfl
  | cons p ps ih =>
    simp only [List.map_cons, List.nodup_cons] at hnd
    obtain ⟨hp, hnd⟩ := hnd
    rw [List.foldlM_cons, List.filterMap_cons]
    cases hs : slotVal p.1 with
    | none =>
      rw [vbStep_none _ _ _ _ _ _ _ hs]
      exact ih hnd out seen fun q hq => hseen q (List.mem_cons_of_mem _ hq)
    | some lv =>
      rw [vbStep_some _ _ _ _ _ _ _ _ _ hs (by simp [hseen p List.mem_cons_self])]
      refine (ih hnd _ (p.1 :: seen) fun q hq hm => ?_).trans ?_
      · rcases List.mem_cons.mp hm with he | hm
        · exact hp (he ▸ List.mem_map_of_mem hq)
        · exact hseen q (List.mem_cons_of_mem _ hq) hm
      · rw [Option.bind_some]
        cases emit op bool p.1 lv p.2 <;> simp

theorem rhsPass_of_nodup (op : String) (bool : Bool) (card : Card) (slotVal : Nat → Option V)
    (outsOf : Nat → List Nat) (rhs : IdVec V) (h : ((slotPairs outsOf rhs).map (·.1)).Nodup) :
    (outerFold (vbStep op bool card slotVal) outsOf rhs (.ok ([], []))).map (·.1)
      = .ok ((slotPairs outsOf rhs).filterMap fun p => (slotVal p.1).bind fun lv => emit op bool p.1 lv p.2) := by
  rw [outerFold_eq]
  exact vbStep_foldlM op bool card slotVal _ h [] [] fun _ _ hm => nomatch hm

theorem engVectorBinop_of_nodup (op : String) (bool : Bool) (card : Card) (j : Join) (lhs rhs : IdVec V)
    (hl : ((slotPairs (lhsOutsOf card j) lhs).map (·.1)).Nodup)
    (hr : ((slotPairs (rhsOutsOf card j) rhs).map (·.1)).Nodup) :
    engVectorBinop op bool card j lhs rhs
      = .ok ((slotPairs (rhsOutsOf card j) rhs).filterMap fun p =>
          (slotValOf (slotPairs (lhsOutsOf card j) lhs) p.1).bind fun lv => emit op bool p.1 lv p.2) := by
  rw [engVectorBinop, lhsPass_of_nodup card j lhs hl]
  exact rhsPass_of_nodup op bool card _ _ rhs hr

/-- with at most one output per right-hand sample and no output shared by two of them, the second
pass reports no duplicate and emits the probes in sample order -/
theorem rhsPass_eq (op : String) (bool : Bool) (j : Join) (slotVal : Nat → Option V) (rhs : IdVec V)
    (hone : ∀ y ∈ rhs, (j.lowIdx.getD y.1 []).length ≤ 1)
    (hinj : ∀ y ∈ rhs, ∀ y' ∈ rhs, ∀ o, o ∈ j.lowIdx.getD y.1 [] → o ∈ j.lowIdx.getD y'.1 [] → y.1 = y'.1)
    (hids : (rhs.map (·.1)).Pairwise (· ≠ ·)) :
    (outerFold (vbStep op bool .oneToOne slotVal) (rhsOutsOf .oneToOne j) rhs (.ok ([], []))).map (·.1)
      = .ok (rhs.filterMap (probe op bool j slotVal)) := by
  rw [rhsOutsOf_oneToOne, rhsPass_of_nodup _ _ _ _ _ rhs
    (nodup_slotPairs _ rhs hids (fun y hy => nodup_of_length_le_one (hone y hy)) hinj)]
  refine congrArg _ (filterMap_slotPairs _ rhs _ _ fun y hy => ?_)
  have := hone y hy
  unfold probe
  match j.lowIdx.getD y.1 [], this with
  | [], _ => rfl
  | [o], _ =>
    simp only [List.map_cons, List.map_nil, List.filterMap_cons, List.filterMap_nil]
    cases (slotVal o).bind fun lv => emit op bool o lv y.2 <;> rfl

/-- what a left-hand sample contributes in the reference engine: its partner on the right, if any -/
def refPair (op : String) (bool : Bool) (m : Matching) (rhs : Vec V) (ls : Labels × V) : Option (Labels × V) :=
  match rhs.find? (fun r => sigLabels m r.1 == sigLabels m ls.1) with
  | none => none
  | some rs =>
    let (value, keep) := elemBinop op ls.2 rs.2
    if !bool && !keep then none
    else some (resultMetric op bool m ls.1 rs.1, if bool then ofBool keep else value)

/-- one-to-one matching with pairwise distinct match keys on both sides: no error, one output per
left-hand sample that has a partner and passes the comparison -/
theorem vectorBinop_unique (op : String) (bool : Bool) (m : Matching) (hc : m.card = .oneToOne) (lhs rhs : Vec V)
    (hl : (lhs.map fun x => sigLabels m x.1).Nodup) (hr : (rhs.map fun x => sigLabels m x.1).Nodup) :
    vectorBinop op bool m lhs rhs = .ok (lhs.filterMap (refPair op bool m rhs)) := by
  unfold vectorBinop
  by_cases hemp : (lhs.isEmpty || rhs.isEmpty) = true
  · rw [if_pos hemp]
    rcases (Bool.or_eq_true _ _).mp hemp with h | h <;> rw [List.isEmpty_iff.mp h]
    · rfl
    · exact congrArg _ (List.filterMap_eq_nil_iff.mpr fun _ _ => rfl).symm
  · rw [if_neg hemp]
    have hswap : (m.card == Card.oneToMany) = false := by rw [hc]; rfl
    simp only [hswap, Bool.false_eq_true, if_false]
    rw [if_neg (by rw [eraseDups_of_nodup _ hr]; simp)]
    -- the loop over the left-hand side: the outputs so far are those of the samples so far, and
    -- every signature in `matched` is that of a sample so far
    refine Exists.elim (foldl_prefix_inv (fun pre acc => ∃ matched : List (Labels × List Labels),
        acc = Except.ok (pre.filterMap (refPair op bool m rhs), matched) ∧ ∀ e ∈ matched, ∃ y ∈ pre, e.1 = sigLabels m y.1)
      _ lhs (.ok ([], [])) ⟨[], rfl, nofun⟩ ?_) fun _ h => congrArg (Except.map (·.1)) h.1
    rintro pre x suf _ h ⟨matched, rfl, hm⟩
    have hfresh : matched.find? (fun e => e.1 == sigLabels m x.1) = none := by
      rw [List.find?_eq_none]
      intro e he
      obtain ⟨y, hy, hey⟩ := hm e he
      simp only [beq_iff_eq, hey]
      intro hsame
      rw [h, List.map_append, List.map_cons] at hl
      exact (List.nodup_append.mp hl).2.2 _ (List.mem_map_of_mem hy) _ List.mem_cons_self hsame
    have hpre : ∀ e ∈ matched, ∃ y ∈ pre ++ [x], e.1 = sigLabels m y.1 := fun e he => by
      obtain ⟨y, hy, hey⟩ := hm e he
      exact ⟨y, List.mem_append_left _ hy, hey⟩
    simp only [List.filterMap_append, List.filterMap_cons, List.filterMap_nil, refPair]
    cases hfind : rhs.find? (fun r => sigLabels m r.1 == sigLabels m x.1) with
    | none => exact ⟨matched, by simp only [List.append_nil], hpre⟩
    | some rs =>
      cases hkeep : (!bool && !(elemBinop op x.2 rs.2).2) with
      | true => exact ⟨matched, by simp only [hkeep, if_true, List.append_nil], hpre⟩
      | false =>
        refine ⟨matched ++ [(sigLabels m x.1, [resultMetric op bool m x.1 rs.1])],
          by simp only [hkeep, hfresh, Bool.false_eq_true, if_false], fun e he => ?_⟩
        rcases List.mem_append.mp he with he | he
        · exact hpre e he
        · exact ⟨x, by simp, by rw [List.mem_singleton.mp he]⟩

omit [Val V] in
theorem find_by_id (xs : IdVec V) (hids : (xs.map (·.1)).Pairwise (· ≠ ·)) (x : Nat × V) (hx : x ∈ xs) :
    xs.find? (fun z => z.1 == x.1) = some x :=
  (find?_key_eq_some_iff (fun z : Nat × V => z.1) (l := xs) hids x.1 x).mpr ⟨hx, rfl⟩

omit [Val V] in
theorem find_by_id_mem (xs : IdVec V) (i : Nat) (x : Nat × V) (h : xs.find? (fun z => z.1 == i) = some x) :
    x ∈ xs ∧ x.1 = i := by
  have := List.find?_some h
  exact ⟨List.mem_of_find?_eq_some h, by simpa using this⟩

/-- the samples of `xs` that have a partner (by `p`, on ids) among `ys`, each combined with it -/
def joined {β : Type} (p : Nat → Option Nat) (xs ys : IdVec V) (k : Nat × V → Nat × V → β) : List β :=
  xs.filterMap fun x => (p x.1).bind fun l => (ys.find? (fun z => z.1 == l)).map (k x)

omit [Val V] in
theorem mem_joined {β : Type} (p : Nat → Option Nat) (xs ys : IdVec V) (hys : (ys.map (·.1)).Pairwise (· ≠ ·))
    (k : Nat × V → Nat × V → β) (b : β) :
    b ∈ joined p xs ys k ↔ ∃ x ∈ xs, ∃ y ∈ ys, p x.1 = some y.1 ∧ k x y = b := by
  simp only [joined, List.mem_filterMap]
  constructor
  · rintro ⟨x, hx, hb⟩
    cases hp : p x.1 with
    | none => rw [hp] at hb; cases hb
    | some l =>
      rw [hp, Option.bind_some, Option.map_eq_some_iff] at hb
      obtain ⟨y, hy, rfl⟩ := hb
      obtain ⟨hym, rfl⟩ := find_by_id_mem ys l y hy
      exact ⟨x, hx, y, hym, hp, rfl⟩
  · rintro ⟨x, hx, y, hy, hp, rfl⟩
    exact ⟨x, hx, by rw [hp, Option.bind_some, find_by_id ys hys y hy]; rfl⟩

omit [Val V] in
theorem nodup_joined {β : Type} (p : Nat → Option Nat) (xs ys : IdVec V) (hxs : (xs.map (·.1)).Pairwise (· ≠ ·))
    (k : Nat × V → Nat × V → β) (hk : ∀ x y x' y', k x y = k x' y' → x.1 = x'.1) : (joined p xs ys k).Nodup := by
  refine List.Pairwise.filterMap (S := (· ≠ ·)) _ (fun x x' hne b hb b' hb' he => hne ?_) (List.pairwise_map.mp hxs)
  subst he
  simp only [Option.bind_eq_some_iff, Option.map_eq_some_iff] at hb hb'
  obtain ⟨_, _, y, _, rfl⟩ := hb
  obtain ⟨_, _, y', _, h⟩ := hb'
  exact hk x y x' y' h.symm

omit [Val V] in
theorem filterMap_joined {β γ : Type} (p : Nat → Option Nat) (xs ys : IdVec V) (k : Nat × V → Nat × V → β)
    (g : β → Option γ) :
    (joined p xs ys k).filterMap g
      = xs.filterMap fun x => (p x.1).bind fun l => (ys.find? (fun z => z.1 == l)).bind fun y => g (k x y) := by
  rw [joined, List.filterMap_filterMap]
  apply filterMap_congr'
  intro x _
  cases p x.1 with
  | none => rfl
  | some l =>
    rw [Option.bind_some, Option.bind_some]
    cases ys.find? (fun z => z.1 == l) <;> rfl

/-- **enumerating the matched pairs from the left or from the right gives the same outputs, up to
order** -/
theorem matched_perm {β : Type} (pm pmInv : Nat → Option Nat) (hpm : ∀ i l, pm i = some l ↔ pmInv l = some i)
    (lhs rhs : IdVec V) (hl : (lhs.map (·.1)).Pairwise (· ≠ ·)) (hr : (rhs.map (·.1)).Pairwise (· ≠ ·))
    (e : Nat × V → Nat × V → Option β) :
    (lhs.filterMap fun x => (pm x.1).bind fun l => (rhs.find? (fun z => z.1 == l)).bind fun y => e x y).Perm
      (rhs.filterMap fun y => (pmInv y.1).bind fun i => (lhs.find? (fun z => z.1 == i)).bind fun x => e x y) := by
  classical
  -- both sides read the same duplicate-free list of pairs of samples
  have hperm : (joined pm lhs rhs Prod.mk).Perm (joined pmInv rhs lhs fun y x => (x, y)) := by
    refine (List.perm_ext_iff_of_nodup (nodup_joined pm lhs rhs hl _ fun _ _ _ _ h => congrArg (·.1.1) h)
      (nodup_joined pmInv rhs lhs hr _ fun _ _ _ _ h => congrArg (·.2.1) h)).mpr fun q => ?_
    rw [mem_joined pm lhs rhs hr, mem_joined pmInv rhs lhs hl]
    constructor
    · rintro ⟨x, hx, y, hy, hp, rfl⟩
      exact ⟨y, hy, x, hx, (hpm _ _).mp hp, rfl⟩
    · rintro ⟨y, hy, x, hx, hp, rfl⟩
      exact ⟨x, hx, y, hy, (hpm _ _).mpr hp, rfl⟩
  have := hperm.filterMap fun q => e q.1 q.2
  rwa [filterMap_joined, filterMap_joined] at this

/-- the facts about the join tables that the step needs. `H` is the series list of the
high-cardinality side (`engJoin`'s `high`: the left-hand side here; `Lw` below is the other, `low`),
`outL` gives the output labels of a series of `H`, `pmInv` sends a right-hand series to the
left-hand series with the same match key (at most one each way) -/
structure JTables (j : Join) (H : List Labels) (outL : Labels → Labels) (pmInv : Nat → Option Nat) : Prop where
  hi_inj : ∀ i i' o, j.highIdx.getD i none = some o → j.highIdx.getD i' none = some o → i = i'
  hi_lt : ∀ i o, j.highIdx.getD i none = some o → o < j.outputs.length
  out_lab : ∀ i o, j.highIdx.getD i none = some o → j.outputs.getD o [] = outL (H.getD i [])
  low_some : ∀ l i, pmInv l = some i → ∃ o, j.highIdx.getD i none = some o ∧ j.lowIdx.getD l [] = [o]
  low_none : ∀ l, pmInv l = none → j.lowIdx.getD l [] = []
  pm_inj : ∀ l l' i, pmInv l = some i → pmInv l' = some i → l = l'

/-- what a matched pair emits, with its labels -/
def emitL (op : String) (bool : Bool) (lab : Labels) (lv xv : V) : Option (Labels × V) :=
  let (value, keep) := elemBinop op lv xv
  if !bool && !keep then none else some (lab, if bool then ofBool keep else value)

theorem emit_lookup (op : String) (bool : Bool) (o : Nat) (lv xv : V) (outs : List Labels) (lab : Labels)
    (h : outs[o]? = some lab) :
    (emit op bool o lv xv).bind (fun p => (outs[p.1]?).map fun s => (s, p.2)) = emitL op bool lab lv xv := by
  unfold emit emitL
  cases bool with
  | true => simp [h]
  | false => cases hk : (elemBinop op lv xv).2 <;> simp [hk, h]

omit [Val V] in
/-- where no slot is filled twice, the last sample filled in is the only one -/
theorem slotValOf_of_nodup (slots : List (Nat × V)) (h : (slots.map (·.1)).Nodup) (o : Nat) :
    slotValOf slots o = (slots.find? (·.1 == o)).map (·.2) := by
  rw [slotValOf, List.getLast?_filter]
  refine congrArg _ (Option.ext fun a => ?_)
  rw [find?_key_eq_some_iff (·.1) (by rw [List.map_reverse]; exact List.pairwise_reverse.mpr (h.imp Ne.symm)) o a,
    find?_key_eq_some_iff (·.1) h o a, List.mem_reverse]

omit [Val V] in
theorem slot_of_output (o? : Nat → Option Nat) (hinj : ∀ i i' o, o? i = some o → o? i' = some o → i = i')
    (lhs : IdVec V) (hnd : ((lhs.filterMap fun x => (o? x.1).map fun o => (o, x.2)).map (·.1)).Nodup)
    (i o : Nat) (hio : o? i = some o) :
    slotValOf (lhs.filterMap fun x => (o? x.1).map fun o => (o, x.2)) o = (lhs.find? (fun z => z.1 == i)).map (·.2) := by
  -- only the sample with id `i` fills `o`
  have hkey : ∀ x ∈ lhs, (((o? x.1).map fun o => (o, x.2)).any (·.1 == o)) = (x.1 == i) := by
    intro x _
    rw [Bool.eq_iff_iff, beq_iff_eq, Option.any_map, Option.any_eq_true]
    constructor
    · rintro ⟨o', ho', h⟩
      exact hinj x.1 i o (ho'.trans (congrArg some (beq_iff_eq.mp h))) hio
    · rintro rfl
      exact ⟨o, hio, beq_self_eq_true o⟩
  rw [slotValOf_of_nodup _ hnd, List.find?_filterMap, find?_congr' hkey]
  cases hf : lhs.find? (fun z => z.1 == i) with
  | none => rfl
  | some x =>
    rw [Option.bind_some, (find_by_id_mem lhs i x hf).2, hio]
    rfl

theorem engine_step_eq (op : String) (bool : Bool) (j : Join) (H : List Labels) (outL : Labels → Labels)
    (pmInv : Nat → Option Nat) (hj : JTables j H outL pmInv) (lhs rhs : IdVec V)
    (hl : (lhs.map (·.1)).Pairwise (· ≠ ·)) (hr : (rhs.map (·.1)).Pairwise (· ≠ ·)) :
    (engVectorBinop op bool .oneToOne j lhs rhs).map (denote j.outputs)
      = .ok (rhs.filterMap fun y => (pmInv y.1).bind fun i => (lhs.find? (fun z => z.1 == i)).bind fun x =>
          emitL op bool (outL (H.getD x.1 [])) x.2 y.2) := by
  -- a right-hand series maps to the output of its partner, if it has one
  have hlow : rhsOutsOf .oneToOne j = fun l => ((pmInv l).bind fun i => j.highIdx.getD i none).toList := by
    funext l
    show j.lowIdx.getD l [] = _
    cases hp : pmInv l with
    | none => exact hj.low_none l hp
    | some i =>
      obtain ⟨o, hio, hlow⟩ := hj.low_some l i hp
      rw [hlow, Option.bind_some, hio]
      rfl
  have hnd := nodup_slotPairs_toList (fun l => (pmInv l).bind fun i => j.highIdx.getD i none) rhs hr
    fun y _ y' _ o ho ho' => by
      rw [Option.bind_eq_some_iff] at ho ho'
      obtain ⟨i, hp, hio⟩ := ho
      obtain ⟨i', hp', hio'⟩ := ho'
      cases hj.hi_inj i i' o hio hio'
      exact hj.pm_inj y.1 y'.1 i hp hp'
  have hndL := nodup_slotPairs_toList (fun i => j.highIdx.getD i none) lhs hl fun x _ y _ o => hj.hi_inj x.1 y.1 o
  rw [engVectorBinop_of_nodup op bool .oneToOne j lhs rhs hndL (hlow ▸ hnd),
    hlow, lhsOutsOf_oneToOne, slotPairs_toList, slotPairs_toList]
  rw [slotPairs_toList] at hndL
  refine congrArg Except.ok ?_
  rw [denote, List.filterMap_filterMap, List.filterMap_filterMap]
  apply filterMap_congr'
  intro y _
  cases hp : pmInv y.1 with
  | none => rfl
  | some i =>
    obtain ⟨o, hio, _⟩ := hj.low_some y.1 i hp
    simp only [Option.bind_some, hio, Option.map_some, slot_of_output _ hj.hi_inj lhs hndL i o hio]
    cases hf : lhs.find? (fun z => z.1 == i) with
    | none => rfl
    | some x =>
      obtain ⟨_, hxi⟩ := find_by_id_mem lhs i x hf
      have hget : j.outputs[o]? = some (outL (H.getD x.1 [])) := by
        rw [hxi, ← hj.out_lab i o hio, List.getD_eq_getElem?_getD, List.getElem?_eq_getElem (hj.hi_lt i o hio)]
        rfl
      simp only [Option.map_some, Option.bind_some, emit_lookup op bool o x.2 y.2 j.outputs _ hget]

theorem refPair_eq (op : String) (bool : Bool) (m : Matching) (rhs : Vec V) (ls : Labels × V) :
    refPair op bool m rhs ls = (rhs.find? (fun r => sigLabels m r.1 == sigLabels m ls.1)).bind fun rs =>
      emitL op bool (resultMetric op bool m ls.1 rs.1) ls.2 rs.2 := by
  unfold refPair
  cases rhs.find? (fun r => sigLabels m r.1 == sigLabels m ls.1) <;> rfl

/-- partners by match key: `pm` sends a left-hand series (of `H`) to the right-hand one (of `Lw`) with
the same key, `pmInv` back; that keys are unique within a side is a hypothesis of its own where needed -/
structure Partners (key : Labels → Labels) (H Lw : List Labels) (pm pmInv : Nat → Option Nat) : Prop where
  iff : ∀ i l, pm i = some l ↔ pmInv l = some i
  key_eq : ∀ i l, pm i = some l → key (H.getD i []) = key (Lw.getD l []) ∧ i < H.length ∧ l < Lw.length
  complete : ∀ i l, i < H.length → l < Lw.length → key (H.getD i []) = key (Lw.getD l []) → pm i = some l

omit [Val V] in
theorem find_partner (key : Labels → Labels) (H Lw : List Labels) (pm pmInv : Nat → Option Nat)
    (hp : Partners key H Lw pm pmInv) (rhs : IdVec V) (hrv : ∀ y ∈ rhs, y.1 < Lw.length) (i : Nat) (hi : i < H.length) :
    rhs.find? (fun y => key (Lw.getD y.1 []) == key (H.getD i []))
      = (pm i).bind fun l => rhs.find? (fun z => z.1 == l) := by
  have hpt : ∀ y ∈ rhs, (key (Lw.getD y.1 []) == key (H.getD i [])) = (pm i == some y.1) := by
    intro y hy
    rw [Bool.eq_iff_iff, beq_iff_eq, beq_iff_eq]
    exact ⟨fun hk => hp.complete i y.1 hi (hrv y hy) hk.symm, fun h => (hp.key_eq i y.1 h).1.symm⟩
  rw [find?_congr' hpt]
  cases pm i with
  | none => simp
  | some l => exact find?_congr' fun y _ => by rw [Option.some_beq_some]; exact Bool.beq_comm ..

omit [Val V] in
theorem denote_sigs_nodup (m : Matching) (S : List Labels) (xs : IdVec V) (hv : ∀ x ∈ xs, x.1 < S.length)
    (hS : ∀ i i', i < S.length → i' < S.length → sigLabels m (S.getD i []) = sigLabels m (S.getD i' []) → i = i')
    (hids : (xs.map (·.1)).Pairwise (· ≠ ·)) :
    ((denote S xs).map fun x => sigLabels m x.1).Nodup := by
  rw [denote_eq_map_of_valid S xs hv, List.map_map, List.Nodup, List.pairwise_map]
  exact (List.pairwise_map.mp hids).imp_of_mem fun {a b} ha hb hne h => hne (hS a.1 b.1 (hv a ha) (hv b hb) h)

theorem reference_step_eq (op : String) (bool : Bool) (m : Matching) (hc : m.card = .oneToOne)
    (H Lw : List Labels) (pm pmInv : Nat → Option Nat) (hp : Partners (sigLabels m) H Lw pm pmInv)
    (hH : ∀ i i', i < H.length → i' < H.length → sigLabels m (H.getD i []) = sigLabels m (H.getD i' []) → i = i')
    (hL : ∀ l l', l < Lw.length → l' < Lw.length → sigLabels m (Lw.getD l []) = sigLabels m (Lw.getD l' []) → l = l')
    (lhs rhs : IdVec V) (hlv : ∀ x ∈ lhs, x.1 < H.length) (hrv : ∀ y ∈ rhs, y.1 < Lw.length)
    (hl : (lhs.map (·.1)).Pairwise (· ≠ ·)) (hr : (rhs.map (·.1)).Pairwise (· ≠ ·)) :
    vectorBinop op bool m (denote H lhs) (denote Lw rhs)
      = .ok (lhs.filterMap fun x => (pm x.1).bind fun l => (rhs.find? (fun z => z.1 == l)).bind fun y =>
          emitL op bool (resultMetric op bool m (H.getD x.1 []) (Lw.getD y.1 [])) x.2 y.2) := by
  rw [vectorBinop_unique op bool m hc _ _ (denote_sigs_nodup m H lhs hlv hH hl) (denote_sigs_nodup m Lw rhs hrv hL hr),
    denote_eq_map_of_valid H lhs hlv, denote_eq_map_of_valid Lw rhs hrv]
  congr 1
  rw [List.filterMap_map]
  apply filterMap_congr'
  intro x hx
  simp only [Function.comp_def, refPair_eq, lab, List.find?_map, Option.bind_map,
    find_partner (sigLabels m) H Lw pm pmInv hp rhs hrv x.1 (hlv x hx), Option.bind_assoc]

/-- `hlab`: the result labels do not depend on the right-hand series (one-to-one, no include labels:
`oOf_eq_resultMetric`) -/
theorem step_agrees (op : String) (bool : Bool) (m : Matching) (hc : m.card = .oneToOne) (j : Join)
    (H Lw : List Labels) (outL : Labels → Labels) (pm pmInv : Nat → Option Nat)
    (hj : JTables j H outL pmInv) (hp : Partners (sigLabels m) H Lw pm pmInv)
    (hlab : ∀ h lw, outL h = resultMetric op bool m h lw)
    (hH : ∀ i i', i < H.length → i' < H.length → sigLabels m (H.getD i []) = sigLabels m (H.getD i' []) → i = i')
    (hL : ∀ l l', l < Lw.length → l' < Lw.length → sigLabels m (Lw.getD l []) = sigLabels m (Lw.getD l' []) → l = l')
    (lhs rhs : IdVec V) (hlv : ∀ x ∈ lhs, x.1 < H.length) (hrv : ∀ y ∈ rhs, y.1 < Lw.length)
    (hl : (lhs.map (·.1)).Pairwise (· ≠ ·)) (hr : (rhs.map (·.1)).Pairwise (· ≠ ·)) :
    ∃ eng ref, (engVectorBinop op bool .oneToOne j lhs rhs).map (denote j.outputs) = .ok eng ∧
      vectorBinop op bool m (denote H lhs) (denote Lw rhs) = .ok ref ∧ eng.Perm ref := by
  refine ⟨_, _, engine_step_eq op bool j H outL pmInv hj lhs rhs hl hr,
    reference_step_eq op bool m hc H Lw pm pmInv hp hH hL lhs rhs hlv hrv hl hr, ?_⟩
  simp only [← hlab]
  exact (matched_perm pm pmInv hp.iff lhs rhs hl hr _).symm

end PromqlVerif
