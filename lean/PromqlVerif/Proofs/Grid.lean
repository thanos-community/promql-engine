/-
The evaluation grid (`walk`, `Window.grid`) and the leaf cursor that cuts it into batches
(`leafStream`). `walk` is an arithmetic progression cut at `stop` (`walk_eq_takeWhile`: what its
elements are and how many), with a splitting law for the fuel (`walk_add`: how batches concatenate);
everything about grids and batches is derived from these.
-/
import PromqlVerif.Ops
namespace PromqlVerif

theorem walk_succ_le {stop step : Int} {n : Nat} {t : Int} (h : t ≤ stop) :
    walk stop step (n + 1) t = t :: walk stop step n (t + step) := by
  simp [walk, h]

theorem walk_nil_of_gt (stop step : Int) (n : Nat) (t : Int) (h : stop < t) : walk stop step n t = [] := by
  cases n with
  | zero => rfl
  | succ n => simp [walk, Int.not_le.mpr h]

theorem walk_pos {stop step : Int} {n : Nat} {t : Int} (hn : 0 < n) (h : t ≤ stop) :
    walk stop step n t = t :: walk stop step (n - 1) (t + step) := by
  obtain ⟨m, rfl⟩ := Nat.exists_eq_succ_of_ne_zero (Nat.ne_of_gt hn)
  exact walk_succ_le h

theorem walk_ne_nil {stop step : Int} {n : Nat} {t : Int} (hn : 0 < n) (h : t ≤ stop) :
    walk stop step n t ≠ [] := by
  simp [walk_pos hn h]

theorem walk_eq_takeWhile (stop step : Int) (n : Nat) (t : Int) :
    walk stop step n t =
      ((List.range n).map fun i : Nat => t + i * step).takeWhile fun x => decide (x ≤ stop) := by
  induction n generalizing t with
  | zero => rfl
  | succ n ih =>
    rw [List.range_succ_eq_map, List.map_cons, List.map_map, walk, List.takeWhile_cons, ih]
    simp [Function.comp_def, Int.add_mul, Int.add_assoc, Int.add_comm step]

theorem walk_length_le (stop step : Int) (n : Nat) (t : Int) : (walk stop step n t).length ≤ n := by
  rw [walk_eq_takeWhile]
  exact Nat.le_trans (List.takeWhile_sublist _).length_le (by simp)

theorem walk_mem (stop step : Int) (hs : 0 ≤ step) (n : Nat) (t x : Int) (hx : x ∈ walk stop step n t) :
    t ≤ x ∧ x ≤ stop ∧ ∃ k : Nat, k < n ∧ x = t + k * step := by
  rw [walk_eq_takeWhile] at hx
  have h2 : x ≤ stop := by simpa using List.all_eq_true.mp List.all_takeWhile x hx
  obtain ⟨k, hk, rfl⟩ := List.mem_map.mp (List.takeWhile_subset _ hx)
  exact ⟨by have := Int.mul_nonneg (Int.natCast_nonneg k) hs; omega, h2, k, List.mem_range.mp hk, rfl⟩

theorem walk_pairwise_lt (stop step : Int) (hs : 0 < step) (n : Nat) (t : Int) :
    (walk stop step n t).Pairwise (· < ·) := by
  rw [walk_eq_takeWhile]
  refine (List.pairwise_lt_range.map _ fun i j hij => ?_).sublist (List.takeWhile_sublist _)
  have := Int.mul_lt_mul_of_pos_right (Int.ofNat_lt.mpr hij) hs
  omega

/-- the loop stops early only because the next timestamp is past the end -/
theorem walk_len (stop step : Int) (n : Nat) (t : Int) :
    (walk stop step n t).length = n ∨ stop < t + step * (walk stop step n t).length := by
  induction n generalizing t with
  | zero => simp [walk]
  | succ n ih =>
    by_cases h : t ≤ stop
    · rw [walk_succ_le h, List.length_cons, Int.natCast_succ, Int.mul_add]
      have := ih (t + step)
      omega
    · simp [walk_nil_of_gt stop step _ t (by omega)]; omega

theorem walk_add (stop step : Int) (hs : 0 ≤ step) (n m : Nat) (t : Int) :
    walk stop step (n + m) t = walk stop step n t ++ walk stop step m (t + n * step) := by
  induction n generalizing t with
  | zero => simp [walk]
  | succ n ih =>
    have hmul : t + ↑(n + 1) * step = t + step + ↑n * step := by
      rw [Int.natCast_succ, Int.add_mul]; omega
    rw [Nat.add_right_comm, hmul]
    by_cases hle : t ≤ stop
    · rw [walk_succ_le hle, walk_succ_le hle, ih (t + step), List.cons_append]
    · have h1 : (0 : Int) ≤ ↑n * step := Int.mul_nonneg (by omega) hs
      rw [walk_nil_of_gt stop step _ t (by omega), walk_nil_of_gt stop step (n + 1) t (by omega),
        walk_nil_of_gt stop step m _ (by omega), List.append_nil]

theorem walk_saturate (stop step : Int) (hs : 0 ≤ step) (m k : Nat) (t : Int) (hk : m ≤ k)
    (hm : stop < t + m * step) : walk stop step k t = walk stop step m t := by
  obtain ⟨d, rfl⟩ := Nat.exists_eq_add_of_le hk
  rw [walk_add stop step hs m d t, walk_nil_of_gt stop step d _ hm, List.append_nil]

theorem Window.grid_eq_walk (w : Window) (hs : 0 < w.step) :
    w.grid = walk w.stop w.step w.numSteps w.start := by
  simp [Window.grid, Int.not_le.mpr hs]

theorem Window.grid_pairwise_lt (w : Window) (hs : 0 < w.step) : w.grid.Pairwise (· < ·) := by
  rw [w.grid_eq_walk hs]
  exact walk_pairwise_lt _ _ hs _ _

theorem numSteps_passes_end (w : Window) (hs : 0 < w.step) (hle : w.start ≤ w.stop) :
    w.stop < w.start + (w.numSteps : Int) * w.step := by
  have hnn : 0 ≤ (w.stop - w.start) / w.step := Int.ediv_nonneg (by omega) (by omega)
  have := Int.lt_ediv_add_one_mul_self (w.stop - w.start) hs
  simp only [Window.numSteps, Int.not_le.mpr hs, Int.not_lt.mpr hle, if_false, Int.natCast_succ,
    Int.toNat_of_nonneg hnn]
  omega

theorem walk_eq_grid_of_le (w : Window) (hs : 0 < w.step) (hle : w.start ≤ w.stop) (n : Nat) (hn : w.numSteps ≤ n) :
    walk w.stop w.step n w.start = w.grid := by
  rw [w.grid_eq_walk hs]
  exact walk_saturate _ _ (Int.le_of_lt hs) _ _ _ hn (numSteps_passes_end w hs hle)

theorem leafStream_ended (w : Window) (n fuel : Nat) (cur : Int) (h : w.stop < cur) :
    leafStream w n fuel cur = [] := by
  cases fuel with
  | zero => rfl
  | succ f => simp [leafStream, h]

theorem leafStream_live (w : Window) (hs : 0 < w.step) (n fuel : Nat) (cur : Int) (h : cur ≤ w.stop) :
    leafStream w n (fuel + 1) cur = walk w.stop w.step n cur :: leafStream w n fuel (cur + w.step * n) := by
  simp [leafStream, leafBatch, Int.not_lt.mpr h, Int.not_le.mpr hs]

/-- cutting into batches loses and repeats nothing: the batches of `fuel` calls, concatenated, are
one walk of `fuel * n` iterations from the same cursor -/
theorem leafStream_flatten (w : Window) (hs : 0 < w.step) (n : Nat) (hn : 0 < n) (fuel : Nat) (cur : Int) :
    (leafStream w n fuel cur).flatten = walk w.stop w.step (fuel * n) cur := by
  induction fuel generalizing cur with
  | zero => simp [leafStream, walk]
  | succ f ih =>
    by_cases hc : w.stop < cur
    · rw [leafStream_ended w n _ cur hc, walk_nil_of_gt _ _ _ _ hc, List.flatten_nil]
    · rw [leafStream_live w hs n f cur (by omega), List.flatten_cons, ih, Nat.succ_mul, Nat.add_comm,
        walk_add w.stop w.step (Int.le_of_lt hs), Int.mul_comm]

theorem numStepsBatch_le (w : Window) (B : Nat) (hB : 0 < B) : numStepsBatch w B ≤ B := by
  unfold numStepsBatch
  split
  · omega
  · exact Nat.min_le_left _ _

/-- **The cursor protocol of the leaf operators enumerates exactly the evaluation grid**: for
every window with a positive step and every batch size `B ≥ 1`, the concatenation of the batches
of `numSteps` calls is `w.grid` - whatever the step count (above or below the batch size, multiple
of it or not). -/
theorem leaf_stream_is_grid (w : Window) (hs : 0 < w.step) (hle : w.start ≤ w.stop) (B : Nat) (hB : 0 < B) :
    (leafStream w (numStepsBatch w B) w.numSteps w.start).flatten = w.grid := by
  have hn : 0 < numStepsBatch w B := by
    simp only [numStepsBatch, Window.numSteps, Int.not_le.mpr hs, Int.not_lt.mpr hle, if_false]
    omega
  rw [leafStream_flatten w hs _ hn, walk_eq_grid_of_le w hs hle _ (Nat.le_mul_of_pos_right _ hn)]

theorem leaf_batches_le (w : Window) (n fuel : Nat) (cur : Int) :
    ∀ b ∈ leafStream w n fuel cur, b.length ≤ n := by
  induction fuel generalizing cur with
  | zero => intro b hb; simp [leafStream] at hb
  | succ f ih =>
    intro b hb
    unfold leafStream at hb
    split at hb
    · cases hb
    · rcases List.mem_cons.mp hb with rfl | h
      · exact walk_length_le _ _ _ _
      · exact ih _ b h

end PromqlVerif
