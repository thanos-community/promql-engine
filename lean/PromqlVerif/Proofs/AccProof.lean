/-
Reused accumulators compute the per-step reduction: whatever state a previous batch left behind,
`Reset(arg)` followed by the members of the step yields `engReduce`, and `HasValue` tells whether
the group had members. `engReduce` in turn is the reference's `aggReduce` on non-empty groups: outright
except for `sum` and `avg`, for those under laws of the value type.
-/
import PromqlVerif.Acc
import PromqlVerif.Proofs.ListLemmas
namespace PromqlVerif
open Val

variable {V : Type} [Val V]

/-- counting in the value type agrees with counting in `Nat` (true of `Int`; true of IEEE doubles
below 2^53 members) -/
def CountLaw (V : Type) [Val V] : Prop := ∀ n : Nat, add (ofInt (n : Int) : V) one = ofInt ((n + 1 : Nat) : Int)

theorem foldl_count (h : CountLaw V) (vals : List V) (n : Nat) :
    vals.foldl (fun (c : V) _ => add c one) (ofInt (n : Int)) = ofInt ((n + vals.length : Nat) : Int) := by
  induction vals generalizing n with
  | nil => simp
  | cons v vs ih =>
    simp only [List.foldl_cons, List.length_cons]
    rw [h n, ih (n + 1)]
    congr 2
    omega

theorem mem_engineAccumulators {op : String} (hop : engineAccumulators.contains op = true) :
    op = "sum" ∨ op = "max" ∨ op = "min" ∨ op = "count" ∨ op = "avg" ∨ op = "group" ∨ op = "stddev" ∨
      op = "stdvar" ∨ op = "quantile" := by
  simpa [engineAccumulators] using hop

theorem Acc.hasValue_reset {op : String} (hop : engineAccumulators.contains op = true) (a : Acc V) (arg : V) :
    (a.reset op arg).hasValue = false := by
  rcases mem_engineAccumulators hop with rfl | rfl | rfl | rfl | rfl | rfl | rfl | rfl | rfl <;> rfl

theorem Acc.hasValue_feed {op : String} (hop : engineAccumulators.contains op = true) (a : Acc V) (v : V) :
    (Acc.feed op a v).hasValue = true := by
  rcases mem_engineAccumulators hop with rfl | rfl | rfl | rfl | rfl | rfl | rfl | rfl | rfl <;> try rfl
  -- left: stddev and stdvar, which set the flag at the first member and keep it afterwards
  all_goals
    obtain ⟨hv, _, _, _, _, _, _⟩ := a
    cases hv <;> rfl

theorem Acc.hasValue_foldl {op : String} (hop : engineAccumulators.contains op = true) (vals : List V) (s : Acc V) :
    (vals.foldl (Acc.feed op) s).hasValue = (s.hasValue || !vals.isEmpty) := by
  induction vals generalizing s with
  | nil => simp
  | cons v vs ih => rw [List.foldl_cons, ih, Acc.hasValue_feed hop]; simp

theorem acc_sum (a : Acc V) (arg : V) (vals : List V) :
    (vals.foldl (Acc.feed "sum") (a.reset "sum" arg)).val "sum" = engReduce "sum" arg vals :=
  (List.foldl_hom (·.value) (g₁ := Acc.feed "sum") (g₂ := add) fun _ _ => rfl).symm

theorem acc_count (hl : CountLaw V) (a : Acc V) (arg : V) (v : V) (vs : List V) :
    ((v :: vs).foldl (Acc.feed "count") (a.reset "count" arg)).val "count" = engReduce "count" arg (v :: vs) := by
  have h := List.foldl_hom (·.value) (g₁ := Acc.feed "count") (g₂ := fun (c : V) _ => add c one) (l := v :: vs)
    (init := a.reset "count" arg) fun _ _ => rfl
  rw [show (a.reset "count" arg).value = ofInt ((0 : Nat) : Int) from rfl, foldl_count hl, Nat.zero_add] at h
  exact h.symm

/-- the engine's accumulators are the reference reductions, except that `sum` starts from 0
(`engReduce_sum`) and `avg` starts its running mean from an empty group (`engReduce_avg`) -/
theorem engReduce_eq_reference (op : String) (p : V) (vals : List V)
    (h1 : op ≠ "sum") (h2 : op ≠ "avg") : engReduce op p vals = aggReduce op p vals := by
  unfold engReduce
  split
  · exact absurd rfl h1
  · exact absurd rfl h2
  · rfl

/-- starting the sum from 0 gives the same value whenever `0 + v = v` (exact arithmetic; for IEEE
floats the only difference is the sign of a zero sum) -/
theorem engReduce_sum (p : V) (v0 : V) (rest : List V) (hzero : ∀ v : V, add (zero : V) v = v) :
    engReduce "sum" p (v0 :: rest) = aggReduce "sum" p (v0 :: rest) := by
  simp [engReduce, aggReduce, List.foldl_cons, hzero]

/-- `1` is the only count that compares equal to `1` (true of `Int`; true of IEEE doubles below
2^53 members) -/
def MeanLaw (V : Type) [Val V] : Prop := ∀ n : Nat, eq (ofInt ((n + 1 : Nat) : Int) : V) one = decide (n = 0)

theorem meanUpd_count (acc : V × V) (v : V) : (meanUpd acc v).2 = add acc.2 one := by
  unfold meanUpd
  split
  · rfl
  · split <;> rfl

/-- **the engine's `avg` is the reference's**: the running mean from the first member on -/
theorem engReduce_avg (hl : CountLaw V) (hm : MeanLaw V) (p : V) (v0 : V) (rest : List V) :
    engReduce "avg" p (v0 :: rest) = aggReduce "avg" p (v0 :: rest) := by
  -- the first member finds the count at 0 and becomes the mean ...
  have h0 : addToMean ((zero : V), (zero : V)) v0 = (v0, one) := by
    unfold addToMean
    simp only [show (zero : V) = ofInt ((0 : Nat) : Int) from rfl, hl 0, hm 0]
    rfl
  -- ... every later one finds it at `n + 1` and takes the reference's step
  have hstep : ∀ (s : V × V) (v : V), (∃ n : Nat, s.2 = ofInt ((n + 1 : Nat) : Int)) →
      addToMean s v = meanUpd s v := by
    rintro s v ⟨n, hs⟩
    unfold addToMean
    simp only [hs, hl (n + 1), hm (n + 1)]
    rfl
  have h := foldl_sim addToMean meanUpd id (fun s => ∃ n : Nat, s.2 = ofInt ((n + 1 : Nat) : Int))
    (fun s v ⟨n, hs⟩ => ⟨n + 1, by rw [hstep s v ⟨n, hs⟩, meanUpd_count, hs, hl (n + 1)]⟩)
    hstep rest (v0, one) ⟨0, rfl⟩
  show (rest.foldl addToMean (addToMean (zero, zero) v0)).1 = (rest.foldl meanUpd (v0, one)).1
  rw [h0]
  exact congrArg Prod.fst h

theorem acc_avg (a : Acc V) (arg : V) (vals : List V) :
    (vals.foldl (Acc.feed "avg") (a.reset "avg" arg)).val "avg" = engReduce "avg" arg vals :=
  congrArg Prod.fst
    (List.foldl_hom (fun s => (s.mean, s.count)) (g₁ := Acc.feed "avg") (g₂ := addToMean) fun _ _ => rfl).symm

theorem acc_quantile (a : Acc V) (arg : V) (v : V) (vs : List V) :
    ((v :: vs).foldl (Acc.feed "quantile") (a.reset "quantile" arg)).val "quantile"
      = engReduce "quantile" arg (v :: vs) := by
  have key : ∀ (vals : List V) (s : Acc V),
      (vals.foldl (Acc.feed "quantile") s).arg = s.arg ∧
      (vals.foldl (Acc.feed "quantile") s).points = s.points ++ vals := by
    intro vals
    induction vals with
    | nil => intro s; simp
    | cons v vs ih =>
      intro s
      rw [List.foldl_cons, (ih _).1, (ih _).2]
      exact ⟨rfl, List.append_assoc s.points [v] vs⟩
  obtain ⟨h1, h2⟩ := key (v :: vs) (a.reset "quantile" arg)
  show quantileK _ _ = _
  rw [h1, h2]
  rfl

theorem acc_extreme (op : String) (hop : op = "max" ∨ op = "min") (a : Acc V) (arg : V) (v : V) (vs : List V) :
    ((v :: vs).foldl (Acc.feed op) (a.reset op arg)).val op = engReduce op arg (v :: vs) := by
  have h := foldl_sim (Acc.feed op) (fun m v => if (if op = "max" then lt m v else gt m v) || isNaN m then v else m)
    (·.value) (·.hasValue = true) (fun s v _ => Acc.hasValue_feed (by rcases hop with rfl | rfl <;> rfl) s v)
    (fun s v hs => by
      obtain ⟨_, _, _, _, _, _, _⟩ := s
      cases hs
      rcases hop with rfl | rfl <;> rfl)
    vs (Acc.feed op (a.reset op arg) v) (by rcases hop with rfl | rfl <;> rfl)
  rcases hop with rfl | rfl <;> exact h

/-- the step of `stddev` / `stdvar` in `aggReduce`, on count, mean and sum of squared distances -/
def spreadStep (acc : V × V × V) (v : V) : V × V × V :=
  let (cnt, mean, value) := acc
  let cnt := add cnt one
  let delta := sub v mean
  let mean := add mean (div delta cnt)
  (cnt, mean, add value (mul delta (sub v mean)))

theorem acc_spread (op : String) (hop : op = "stddev" ∨ op = "stdvar") (a : Acc V) (arg : V) (v : V) (vs : List V) :
    ((v :: vs).foldl (Acc.feed op) (a.reset op arg)).val op = engReduce op arg (v :: vs) := by
  have h := foldl_sim (Acc.feed op) spreadStep (fun s => (s.count, s.mean, s.value)) (·.hasValue = true)
    (fun s v _ => Acc.hasValue_feed (by rcases hop with rfl | rfl <;> rfl) s v)
    (fun s v hs => by
      obtain ⟨_, _, _, _, _, _, _⟩ := s
      cases hs
      rcases hop with rfl | rfl <;> rfl)
    vs (Acc.feed op (a.reset op arg) v) (by rcases hop with rfl | rfl <;> rfl)
  rcases hop with rfl | rfl
  · exact congrArg (fun t : V × V × V => sqrt (div t.2.2 t.1)) h
  · exact congrArg (fun t : V × V × V => div t.2.2 t.1) h

theorem acc_run_eq (op : String) (hl : op = "count" → CountLaw V) (hop : engineAccumulators.contains op = true)
    (a : Acc V) (arg : V) (vals : List V) :
    (a.run op arg vals).2 = if vals.isEmpty then none else some (engReduce op arg vals) := by
  unfold Acc.run
  simp only [Acc.hasValue_foldl hop, Acc.hasValue_reset hop, Bool.false_or]
  cases vals with
  | nil => rfl
  | cons v vs =>
    simp only [List.isEmpty_cons, Bool.not_false, if_true, Bool.false_eq_true, if_false]
    congr 1
    rcases mem_engineAccumulators hop with rfl | rfl | rfl | rfl | rfl | rfl | rfl | rfl | rfl
    · exact acc_sum a arg _
    · exact acc_extreme "max" (Or.inl rfl) a arg v vs
    · exact acc_extreme "min" (Or.inr rfl) a arg v vs
    · exact acc_count (hl rfl) a arg v vs
    · exact acc_avg a arg _
    · rfl
    · exact acc_spread "stddev" (Or.inl rfl) a arg v vs
    · exact acc_spread "stdvar" (Or.inr rfl) a arg v vs
    · exact acc_quantile a arg v vs

end PromqlVerif
