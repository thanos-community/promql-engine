/-
`PropagateMatchersOptimizer` on one binary expression, against the reference semantics: where the
optimizer rewrites (`propBin`: two plain selectors, no `on`, no label list, one-to-one, not a
comparison, different metric names) and the two sides have pairwise distinct label sets apart from
the name - so that the reference matching raises no error - the rewritten expression has exactly
the value of the original one, at every step: the narrower selectors drop only series that have no
partner.
-/
import PromqlVerif.Plan
import PromqlVerif.Proofs.Matchers
import PromqlVerif.Proofs.JoinPos
namespace PromqlVerif
open Val

variable {V : Type} [Val V]

theorem find_filter_of_imp {α : Type} (p Q : α → Bool) (l : List α) (h : ∀ y ∈ l, p y = true → Q y = true) :
    (l.filter Q).find? p = l.find? p := by
  rw [List.find?_filter]
  apply find?_congr'
  intro a ha
  cases hp : p a with
  | false => simp
  | true => simp [h a ha hp]

omit [Val V] in
theorem matchingSeries_addMissing (c : Ctx V) (s : VSel) (hf : s.filters = none) (extra : List Matcher) :
    matchingSeries c { s with matchers := addMissing s.matchers extra }
      = (matchingSeries c s).filter fun sr => matchAll c.re extra sr.labels := by
  unfold matchingSeries VSel.allMatchers
  simp only [hf, Option.getD_none, List.append_nil]
  rw [List.filter_filter]
  apply List.filter_congr
  intro sr _
  rw [matchAll_addMissing, Bool.and_comm]

/-- a selector with more matchers selects, step by step, those samples of the original selection
whose series satisfy the added matchers -/
theorem selectV_addMissing (c : Ctx V) (s : VSel) (hf : s.filters = none) (extra : List Matcher) (t : Int) :
    selectV c { s with matchers := addMissing s.matchers extra } t
      = (selectV c s t).filter fun x => matchAll c.re extra x.1 := by
  unfold selectV selectT
  -- both sides as one `filterMap` over the series the original selector matches
  rw [matchingSeries_addMissing c s hf, List.filterMap_filter, List.filter_map, List.filter_filterMap]
  congr 1
  apply filterMap_congr'
  intro sr _
  show (if _ then Option.map _ (selectSample c.lookback (s.refTime c.start t) sr.samples) else none)
    = Option.filter _ (Option.map _ (selectSample c.lookback (s.refTime c.start t) sr.samples))
  generalize selectSample c.lookback (s.refTime c.start t) sr.samples = o
  cases o with
  | none => simp
  | some p => simp [Option.filter]

omit [Val V] in
theorem selectV_matches (c : Ctx V) (s : VSel) (hf : s.filters = none) (t : Int) :
    ∀ x ∈ selectV c s t, matchAll c.re s.matchers x.1 = true := by
  intro x hx
  unfold selectV selectT matchingSeries VSel.allMatchers at hx
  simp only [hf, Option.getD_none, List.append_nil, List.mem_map, List.mem_filterMap, List.mem_filter] at hx
  obtain ⟨y, ⟨sr, ⟨_, hm⟩, hy⟩, rfl⟩ := hx
  cases hsel : selectSample c.lookback (s.refTime c.start t) sr.samples with
  | none => simp [hsel] at hy
  | some p =>
    simp only [hsel, Option.map_some, Option.some.injEq] at hy
    subst hy
    exact hm

theorem sig_all_labels (m : Matching) (h1 : m.on = false) (h2 : m.labels = []) (ls : Labels) :
    sigLabels m ls = ls.dropName := by
  unfold sigLabels
  simp [h1, h2, Labels.del, filter_true]

theorem filterMap_refPair_filter (op : String) (bool : Bool) (m : Matching) (L R : Vec V) (pL pR : Labels × V → Bool)
    (hR : ∀ x ∈ L, ∀ y ∈ R, sigLabels m y.1 = sigLabels m x.1 → pR y = true)
    (hL : ∀ x ∈ L, ∀ y ∈ R, sigLabels m y.1 = sigLabels m x.1 → pL x = true) :
    (L.filter pL).filterMap (refPair op bool m (R.filter pR)) = L.filterMap (refPair op bool m R) := by
  rw [List.filterMap_filter]
  apply filterMap_congr'
  intro x hx
  rw [refPair_eq, refPair_eq, find_filter_of_imp _ pR R fun y hy hk => hR x hx y hy (beq_iff_eq.mp hk)]
  cases hf : R.find? (fun r => sigLabels m r.1 == sigLabels m x.1) with
  | none => split <;> rfl
  | some y => rw [if_pos (hL x hx y (List.mem_of_find?_eq_some hf) (by simpa using List.find?_some hf))]

/-- **the propagation rewrite of one binary expression preserves its value** -/
theorem propagate_node_sound (c : Ctx V) (op : String) (b : Bool) (m : Matching) (ls rs : VSel) (t : Int)
    (hul : ((selectV c ls t).map fun x => x.1.dropName).Nodup)
    (hur : ((selectV c rs t).map fun x => x.1.dropName).Nodup) :
    eval c t (propBin op b m (.vsel ls) (.vsel rs)) = eval c t (.bin op b m (.vsel ls) (.vsel rs)) := by
  rcases propBin_cases op b m (.vsel ls) (.vsel rs) with e | ⟨_, _, hl, hr, _, hon, hlab', hcard, hlf, hrf, e⟩
  · rw [e]
  · cases hl
    cases hr
    rw [e]
    have hsig : ∀ x : Labels, sigLabels m x = x.dropName := sig_all_labels m hon hlab'
    rw [eval, eval, eval, eval, eval, eval]
    simp only [bind, Except.bind]
    rw [selectV_addMissing c ls hlf, selectV_addMissing c rs hrf]
    generalize hL : selectV c ls t = L at hul
    generalize hR : selectV c rs t = R at hur
    have hLm : ∀ x ∈ L, matchAll c.re ls.matchers x.1 = true := by rw [← hL]; exact selectV_matches c ls hlf t
    have hRm : ∀ x ∈ R, matchAll c.re rs.matchers x.1 = true := by rw [← hR]; exact selectV_matches c rs hrf t
    have hulS : (L.map fun x => sigLabels m x.1).Nodup := by simpa [hsig] using hul
    have hurS : (R.map fun x => sigLabels m x.1).Nodup := by simpa [hsig] using hur
    -- a sample and its partner agree apart from the name, so each satisfies the other selector's
    -- matchers on other labels
    have key : ∀ (s : VSel) (a a' : Labels), matchAll c.re s.matchers a = true → sigLabels m a' = sigLabels m a →
        matchAll c.re (s.matchers.filter fun x => !isNameMatcher x) a' = true := fun s a a' ha hk => by
      rw [matchAll_nonName c.re s.matchers (hsig a' ▸ hsig a ▸ hk)]
      exact matchAll_filter c.re s.matchers _ a ha
    rw [vectorBinop_unique op b m hcard _ _ (hulS.sublist (List.filter_sublist.map _))
        (hurS.sublist (List.filter_sublist.map _)),
      vectorBinop_unique op b m hcard L R hulS hurS,
      filterMap_refPair_filter op b m L R _ _ (fun x hx y _ hk => key ls x.1 y.1 (hLm x hx) hk)
        fun x _ y hy hk => key rs y.1 x.1 (hRm y hy) hk.symm]

end PromqlVerif
