/-
The remote transport is the identity on well-formed results (strictly increasing timestamps per
series, which C19 gives for every successful result): reading the adapter's storage back with a
lookback of 0 yields, at every time `t`, exactly the points stamped `t`.
-/
import PromqlVerif.Remote
import PromqlVerif.Proofs.ListLemmas
namespace PromqlVerif

variable {V : Type} [Val V]

def IncTs (pts : List (Int × V)) : Prop := pts.Pairwise fun a b => a.1 < b.1

/-- a search finds the member `q` that satisfies `p` if nothing that may stand before `q` does -/
theorem find?_of_pairwise {α : Type} {R : α → α → Prop} {l : List α} (hl : l.Pairwise R) {p : α → Bool} {q : α}
    (hm : q ∈ l) (hq : p q = true) (hR : ∀ a, R a q → p a = false) : l.find? p = some q := by
  obtain ⟨as, bs, rfl⟩ := List.append_of_mem hm
  exact List.find?_eq_some_iff_append.mpr ⟨hq, as, bs, rfl, fun a ha => by
    rw [hR a ((List.pairwise_append.mp hl).2.2 a ha q List.mem_cons_self)]; rfl⟩

omit [Val V] in
/-- on a list with strictly *decreasing* timestamps: the first point at or before `t` is stamped
`t` exactly when the list has a point stamped `t`, and then it is that point -/
theorem find_desc (d : List (Int × V)) (hd : d.Pairwise fun a b => b.1 < a.1) (t : Int) (q : Int × V) :
    (d.find? (fun p => decide (p.1 ≤ t)) = some q ∧ ¬ q.1 < t) ↔ (q ∈ d ∧ q.1 = t) := by
  constructor
  · rintro ⟨h1, h2⟩
    have hle : q.1 ≤ t := by simpa using List.find?_some h1
    exact ⟨List.mem_of_find?_eq_some h1, by omega⟩
  · rintro ⟨hm, rfl⟩
    exact ⟨find?_of_pairwise hd hm (by simp) fun a ha => by simpa using ha, by omega⟩

omit [Val V] in
/-- the selector over a series of points: the latest point at or before `t`, if it is young enough -/
theorem selectSample_pts (lb t : Int) (pts : List (Int × V)) :
    selectSample lb t (ptsToSamples pts)
      = (pts.reverse.find? fun p => decide (p.1 ≤ t)).bind fun q => if q.1 < t - lb then none else some q := by
  unfold selectSample latestAtOrBefore ptsToSamples
  rw [List.getLast?_filter, ← List.map_reverse, List.find?_map]
  simp only [Function.comp_def]
  cases pts.reverse.find? fun p => decide (p.1 ≤ t) <;> rfl

omit [Val V] in
/-- **one series**: with lookback 0 the selector shows `(t', v)` at `t` iff `t' = t` and the result
has the point `(t, v)` -/
theorem select_zero_lookback_exact (pts : List (Int × V)) (h : IncTs pts) (t t' : Int) (v : V) :
    selectSample 0 t (ptsToSamples pts) = some (t', v) ↔ (t' = t ∧ (t, v) ∈ pts) := by
  have hd : pts.reverse.Pairwise fun a b => b.1 < a.1 := List.pairwise_reverse.mpr h
  rw [selectSample_pts, Option.bind_eq_some_iff]
  constructor
  · rintro ⟨q, hq, hif⟩
    split at hif
    · cases hif
    · cases hif
      obtain ⟨hm, rfl⟩ : (t', v) ∈ pts.reverse ∧ t' = t := (find_desc _ hd t (t', v)).mp ⟨hq, by omega⟩
      exact ⟨rfl, List.mem_reverse.mp hm⟩
  · rintro ⟨rfl, hm⟩
    obtain ⟨hq, hlt⟩ := (find_desc _ hd t' (t', v)).mpr ⟨List.mem_reverse.mpr hm, rfl⟩
    exact ⟨_, hq, if_neg (by omega)⟩

omit [Val V] in
theorem find_stamp (pts : List (Int × V)) (h : IncTs pts) (t t' : Int) (v : V) :
    (pts.find? fun p => p.1 == t) = some (t', v) ↔ (t' = t ∧ (t, v) ∈ pts) := by
  rw [find?_key_eq_some_iff (fun p : Int × V => p.1) (List.pairwise_map.mpr (h.imp Int.ne_of_lt))]
  exact ⟨fun ⟨hm, e⟩ => ⟨e, e ▸ hm⟩, fun ⟨e, hm⟩ => ⟨e ▸ hm, e⟩⟩

omit [Val V] in
/-- the same as an equation: the selector with lookback 0 is the lookup of the point stamped `t` -/
theorem select_zero_lookback_eq_find (pts : List (Int × V)) (h : IncTs pts) (t : Int) :
    selectSample 0 t (ptsToSamples pts) = pts.find? fun p => p.1 == t :=
  Option.ext fun q => (select_zero_lookback_exact pts h t q.1 q.2).trans (find_stamp pts h t q.1 q.2).symm

omit [Val V] in
/-- **the transport is the identity**: for a result whose series have strictly increasing
timestamps, the step vector the remote operator delivers at `t` is - series by series, in the
result's order - exactly the points stamped `t` -/
theorem remote_read_is_spec (m : RMatrix V) (hw : ∀ s ∈ m, IncTs s.2) (t : Int) :
    remoteRead 0 m t = remoteSpec m t := by
  unfold remoteRead remoteSpec remoteStorage
  rw [List.zipIdx_map, List.filterMap_map]
  apply filterMap_congr'
  intro si hsi
  have hm : si.1 ∈ m := by
    obtain ⟨s, i⟩ := si
    exact List.fst_mem_of_mem_zipIdx hsi
  simp only [Function.comp, Prod.map, id]
  rw [select_zero_lookback_eq_find si.1.2 (hw _ hm) t]

omit [Val V] in
/-- an instant result (every sample a series with one point) is well-formed for the transport -/
theorem vectorAsMatrix_incTs (v : List (Labels × Int × V)) : ∀ s ∈ vectorAsMatrix v, IncTs s.2 := by
  intro s hs
  unfold vectorAsMatrix at hs
  obtain ⟨x, _, rfl⟩ := List.mem_map.mp hs
  exact List.pairwise_singleton _ _

end PromqlVerif
