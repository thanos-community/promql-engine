/-
The hinted time ranges are sufficient, at the level of whole plans: if the storage drops every
sample outside an interval `[lo, hi]` that contains what every selector of the expression reads
(its lookback interval or range window, at the steps at which it is evaluated), the value of the
expression does not change at any step of the window.
-/
import PromqlVerif.Proofs.EvalCongr
import PromqlVerif.Proofs.ExprInd
import PromqlVerif.Proofs.WindowLemmas
namespace PromqlVerif
open Val

variable {V : Type} [Val V]

def inRange (lo hi : Int) (s : Sample V) : Bool := decide (lo ≤ s.t) && decide (s.t ≤ hi)

def trimSt (lo hi : Int) (st : List (Series V)) : List (Series V) :=
  st.map fun sr => { sr with samples := sr.samples.filter (inRange lo hi) }

def trimCtx (lo hi : Int) (c : Ctx V) : Ctx V := { c with st := trimSt lo hi c.st }

omit [Val V] in
theorem matchingSeries_trim (lo hi : Int) (c : Ctx V) (s : VSel) :
    matchingSeries (trimCtx lo hi c) s = trimSt lo hi (matchingSeries c s) := by
  unfold matchingSeries trimCtx trimSt
  simp only [List.filter_map]
  rfl

omit [Val V] in
theorem latest_trim (lo hi ref : Int) (ss : List (Sample V)) (hs : SortedT ss) (h2 : ref ≤ hi) :
    latestAtOrBefore (ss.filter (inRange lo hi)) ref
      = (latestAtOrBefore ss ref).bind fun x => if lo ≤ x.t then some x else none := by
  unfold latestAtOrBefore
  rw [List.filter_filter, List.getLast?_filter, List.getLast?_filter]
  -- scanning from the end: the first sample at or before `ref` is in range, or it and everything
  -- before it lie below `lo`
  have hrev : ss.reverse.Pairwise (fun a b => b.t < a.t) := List.pairwise_reverse.mpr hs
  generalize ss.reverse = R at hrev
  induction R with
  | nil => rfl
  | cons x R ih =>
    rw [List.pairwise_cons] at hrev
    rw [List.find?_cons, List.find?_cons]
    by_cases hx : x.t ≤ ref
    · by_cases hlo : lo ≤ x.t
      · have : x.t ≤ hi := by omega
        simp [inRange, hx, hlo, this]
      · simp only [inRange, hx, hlo, decide_true, decide_false, Bool.false_and, Bool.and_false, Option.bind_some,
          if_false]
        rw [List.find?_eq_none]
        intro y hy
        have := hrev.1 y hy
        simp only [Bool.and_eq_true, decide_eq_true_eq]
        omega
    · simp only [hx, decide_false]
      exact ih hrev.2

theorem selectSample_trim (lookback lo hi ref : Int) (ss : List (Sample V)) (hs : SortedT ss)
    (h1 : lo ≤ ref - lookback) (h2 : ref ≤ hi) :
    selectSample lookback ref (ss.filter (inRange lo hi)) = selectSample lookback ref ss := by
  rw [selectSample_eq_pick, selectSample_eq_pick, latest_trim lo hi ref ss hs h2]
  cases latestAtOrBefore ss ref with
  | none => rfl
  | some x =>
    rw [Option.bind_some]
    split
    · rfl
    · exact (pick_of_lt fun y hy => by cases hy; omega).symm

omit [Val V] in
theorem windowPoints_trim (lo hi mint maxt : Int) (ss : List (Sample V)) (h1 : lo ≤ mint) (h2 : maxt ≤ hi) :
    windowPoints mint maxt (ss.filter (inRange lo hi)) = windowPoints mint maxt ss := by
  rw [windowPoints_eq, windowPoints_eq, List.filterMap_filter]
  apply filterMap_congr'
  intro x _
  cases hx : inRange lo hi x with
  | true => rfl
  | false =>
    -- a sample outside `[lo, hi]` is outside `[mint, maxt]`
    simp only [inRange, Bool.and_eq_false_iff, decide_eq_false_iff_not] at hx
    exact (inWin_none (by omega)).symm

def SortedSt (c : Ctx V) : Prop := ∀ sr ∈ c.st, SortedT sr.samples

theorem selectT_trim (lo hi : Int) (c : Ctx V) (hs : SortedSt c) (s : VSel) (ref : Int)
    (h1 : lo ≤ ref - c.lookback) (h2 : ref ≤ hi) : selectT (trimCtx lo hi c) s ref = selectT c s ref := by
  unfold selectT
  rw [matchingSeries_trim]
  unfold trimSt
  rw [List.filterMap_map]
  apply filterMap_congr'
  intro sr hsr
  simp only [Function.comp_def, trimCtx]
  rw [selectSample_trim c.lookback lo hi ref sr.samples (hs sr (List.mem_filter.mp hsr).1) h1 h2]

theorem selectV_trim (lo hi : Int) (c : Ctx V) (hs : SortedSt c) (s : VSel) (t : Int)
    (h1 : lo ≤ s.refTime c.start t - c.lookback) (h2 : s.refTime c.start t ≤ hi) :
    selectV (trimCtx lo hi c) s t = selectV c s t := by
  unfold selectV
  have : (trimCtx lo hi c).start = c.start := rfl
  rw [this, selectT_trim lo hi c hs s _ h1 h2]

theorem evalRangeFn_trim (lo hi : Int) (c : Ctx V) (fn : String) (s : VSel) (r t : Int)
    (h1 : lo ≤ s.refTime c.start t - r) (h2 : s.refTime c.start t ≤ hi) :
    evalRangeFn (trimCtx lo hi c) fn s r t = evalRangeFn c fn s r t := by
  unfold evalRangeFn
  rw [matchingSeries_trim]
  unfold trimSt
  rw [List.filterMap_map]
  apply filterMap_congr'
  intro sr _
  simp only [Function.comp_def, trimCtx]
  rw [windowPoints_trim lo hi _ _ sr.samples h1 h2]

section plan
variable (lo hi stop : Int) (c : Ctx V)

/-- the times at which a sub-expression is evaluated: the steps of the window, or only its start
(below a step-invariant wrapper) -/
def Times (w : Bool) (t : Int) : Prop := if w then c.start ≤ t ∧ t ≤ stop else t = c.start

/-- `[lo, hi]` also contains what `timestamp(a)` reads when `a` is a (wrapped) selector and the samples' own
timestamps are wanted: the selector's lookback interval at the evaluation times. A selector with `@` is
excluded: for it `tsBody` computes an interval of its own (from `a - o` or `a`, by the sign of the
offset), which `Cov` does not describe. -/
def TsCov (w : Bool) (a : Expr V) : Prop :=
  ∀ s, a.unwrap = .vsel s → c.q.timestampIsStepTime = true ∨
    (s.atTs = none ∧ ∀ t, Times stop c w t → lo ≤ s.refTime c.start t - c.lookback ∧ s.refTime c.start t ≤ hi)

/-- `[lo, hi]` contains what every selector of the expression reads at the times it is evaluated -/
def Cov : Bool → Expr V → Prop
  | w, .vsel s => ∀ t, Times stop c w t → lo ≤ s.refTime c.start t - c.lookback ∧ s.refTime c.start t ≤ hi
  | w, .msel s r => ∀ t, Times stop c w t → lo ≤ s.refTime c.start t - r ∧ s.refTime c.start t ≤ hi
  | w, .subq e => Cov w e
  | w, .call fn args => covArgs w args ∧ (fn = "timestamp" → ∀ a, args = [a] → TsCov lo hi stop c w a)
  | w, .agg _ _ _ e => Cov w e
  | w, .aggP _ _ _ p e => Cov w p ∧ Cov w e
  | w, .bin _ _ _ l r => Cov w l ∧ Cov w r
  | w, .neg e => Cov w e
  | w, .pos e => Cov w e
  | w, .paren e => Cov w e
  | _, .stepInv e => Cov false e
  | _, .coalesce _ => False
  | _, _ => True
where
  covArgs : Bool → List (Expr V) → Prop
    | _, [] => True
    | w, a :: as => Cov w a ∧ covArgs w as

theorem tsBody_trim (hs : SortedSt c) (w : Bool) (a : Expr V) (t : Int) (ht : Times stop c w t)
    (hcov : TsCov lo hi stop c w a) (r : Except Err (Value V)) :
    tsBody (trimCtx lo hi c) t a.unwrap r = tsBody c t a.unwrap r := by
  cases hu : a.unwrap with
  | vsel s =>
    unfold tsBody
    have hq : (trimCtx lo hi c).q = c.q := rfl
    cases hstep : c.q.timestampIsStepTime with
    | true => simp only [hq, hstep, if_true]; rfl
    | false =>
      obtain ⟨hat, hint⟩ := (hcov s hu).resolve_left (by rw [hstep]; nofun)
      simp only [hq, hstep, Bool.false_eq_true, if_false, hat]
      have hstart : (trimCtx lo hi c).start = c.start := rfl
      rw [hstart, selectT_trim lo hi c hs s _ (hint t ht).1 (hint t ht).2]
      rfl
  | _ => rfl

omit [Val V] in
theorem covArgs_mem {w : Bool} {args : List (Expr V)} (h : Cov.covArgs lo hi stop c w args) :
    ∀ a ∈ args, Cov lo hi stop c w a :=
  forall_mem_of_cons_and (fun _ _ h => h) h

/-- **the hinted ranges are sufficient for whole plans**: series sorted by time, `[lo, hi]`
covering what every selector reads (`Cov`) - then at every time at which the expression is
evaluated its value over the trimmed storage is its value over the full one -/
theorem trim_sound (hs : SortedSt c) :
    ∀ (e : Expr V) (w : Bool), Cov lo hi stop c w e → ∀ t, Times stop c w t →
      eval (trimCtx lo hi c) t e = eval c t e := by
  intro e
  -- in every case `Cov` of the node unfolds, by computation, to what is asked of its children
  induction e using Expr.induct with
  | vsel s => exact fun w hcov t ht => by rw [eval, eval, selectV_trim lo hi c hs s t (hcov t ht).1 (hcov t ht).2]
  | call fn args ih =>
    intro w hcov t ht
    have hargs := covArgs_mem lo hi stop c hcov.1
    apply eval_call_congr_ctx (fun a ha => ih a ha w (hargs a ha) t ht) rfl rfl (fun _ => rfl)
    · rintro s r rfl
      have hsel : Cov lo hi stop c w (.msel s r) := hargs _ List.mem_cons_self
      exact evalRangeFn_trim lo hi c fn s r t (hsel t ht).1 (hsel t ht).2
    · exact fun hfn a ha => tsBody_trim lo hi stop c hs w a t ht (hcov.2 hfn a ha)
  | agg op wo g e ih => exact fun w hcov t ht => eval_agg_congr (ih w hcov t ht) rfl
  | aggP op wo g p e ihp ihe =>
    exact fun w hcov t ht => eval_aggP_congr (ihp w hcov.1 t ht) (ihe w hcov.2 t ht) rfl
  | bin op b m l r ihl ihr => exact fun w hcov t ht => eval_bin_congr (ihl w hcov.1 t ht) (ihr w hcov.2 t ht) rfl
  | neg e ih | pos e ih | paren e ih => exact fun w hcov t ht => by rw [eval, eval, ih w hcov t ht]
  | stepInv e ih => exact fun w hcov t _ => by rw [eval, eval]; exact ih false hcov c.start rfl
  | num | str | msel | subq => exact fun w _ t _ => by rw [eval, eval]
  | coalesce es => exact fun w hcov => hcov.elim
  | remote i e =>
    -- evaluated over the partition's storage, which the trimming of `c.st` does not touch
    exact fun w _ t _ => by rw [eval, eval]; rfl

end plan

end PromqlVerif
