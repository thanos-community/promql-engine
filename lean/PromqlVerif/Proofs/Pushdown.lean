/-
The algebra behind the aggregation push-down of distributed execution: a reduction that folds an
associative step over the members of a group can be computed per partition and re-reduced
centrally. `max`/`min` (with their NaN replacement) are associative under the order laws of IEEE
comparison, exactly - so their push-down is exact for floats; `sum` is under associativity of
`add`, which holds for exact arithmetic and up to rounding for floats.
The reference reductions as such folds (`aggReduce_*_eq`) and the cases of the `max`/`min` step
(`extStep_*`, under `NanLaw`) are also what `Proofs/PermRef.lean` shows order-independence from.
-/
import PromqlVerif.Kernels
import PromqlVerif.Proofs.OrderLaws
namespace PromqlVerif
open Val

variable {V : Type} [Val V]

/-- the shape of the reference reductions: the first member starts the fold -/
def red1 {α : Type} (f : α → α → α) (d : α) : List α → α
  | [] => d
  | v0 :: rest => rest.foldl f v0

theorem red1_append {α : Type} (f : α → α → α) (d : α) (hassoc : ∀ a b c, f (f a b) c = f a (f b c))
    (a b : List α) (ha : a ≠ []) (hb : b ≠ []) :
    red1 f d (a ++ b) = f (red1 f d a) (red1 f d b) := by
  cases a with
  | nil => exact absurd rfl ha
  | cons a0 as =>
    cases b with
    | nil => exact absurd rfl hb
    | cons b0 bs =>
      simp only [red1, List.cons_append, List.foldl_append, List.foldl_cons]
      exact List.foldl_assoc (ha := ⟨hassoc⟩)

theorem red1_flatten {α : Type} (f : α → α → α) (d : α) (hassoc : ∀ a b c, f (f a b) c = f a (f b c))
    (p0 : List α) (ps : List (List α)) (h0 : p0 ≠ []) (hne : ∀ p ∈ ps, p ≠ []) :
    red1 f d (p0 ++ ps.flatten) = red1 f d (red1 f d p0 :: ps.map (red1 f d)) := by
  induction ps generalizing p0 with
  | nil => cases p0 with
    | nil => exact absurd rfl h0
    | cons a as => simp [red1]
  | cons p ps ih =>
    rw [List.flatten_cons, ← List.append_assoc,
      ih (p0 ++ p) (fun h => h0 (List.append_eq_nil_iff.mp h).1) fun q hq => hne q (List.mem_cons_of_mem _ hq),
      red1_append f d hassoc p0 p h0 (hne p List.mem_cons_self)]
    rfl

/-- the step of `max` (`top`) / `min`: replace the running value if the new one beats it or if it
is NaN -/
def extStep (top : Bool) (m v : V) : V := if less top m v || isNaN m then v else m

def NanLaw (V : Type) [Val V] : Prop := ∀ a b : V, isNaN a = true → lt a b = false ∧ lt b a = false

theorem less_nan_left (hn : NanLaw V) (top : Bool) (a b : V) (ha : isNaN a = true) : less top a b = false := by
  cases top
  · exact (hn a b ha).2
  · exact (hn a b ha).1

theorem less_nan_right (hn : NanLaw V) (top : Bool) (a b : V) (hb : isNaN b = true) : less top a b = false := by
  cases top
  · exact (hn b a hb).1
  · exact (hn b a hb).2

theorem extStep_nan (top : Bool) {m : V} (hm : isNaN m = true) (v : V) : extStep top m v = v := by
  unfold extStep
  rw [hm, Bool.or_true, if_pos rfl]

theorem extStep_eq (top : Bool) {m : V} (hm : isNaN m = false) (v : V) :
    extStep top m v = if less top m v then v else m := by
  unfold extStep
  rw [hm, Bool.or_false]

theorem extStep_nan_right (hn : NanLaw V) (top : Bool) {m v : V} (hm : isNaN m = false) (hv : isNaN v = true) :
    extStep top m v = m := by
  rw [extStep_eq top hm, less_nan_right hn top m v hv, if_neg Bool.false_ne_true]

theorem extStep_not_nan (top : Bool) {m v : V} (hm : isNaN m = false) (hv : isNaN v = false) :
    isNaN (extStep top m v) = false := by
  unfold extStep
  split <;> assumption

/-- the step of `max`/`min` is associative: under the order laws on non-NaN values and with
comparisons against NaN false -/
theorem extStep_assoc (L : LtLaws (fun v : V => isNaN v = false)) (hn : NanLaw V) (top : Bool)
    (m x y : V) : extStep top (extStep top m x) y = extStep top m (extStep top x y) := by
  cases hm : isNaN m with
  | true => rw [extStep_nan top hm, extStep_nan top hm]
  | false =>
    cases hx : isNaN x with
    | true => rw [extStep_nan_right hn top hm hx, extStep_nan top hx]
    | false =>
      cases hy : isNaN y with
      | true => rw [extStep_nan_right hn top hx hy, extStep_nan_right hn top (extStep_not_nan top hm hx) hy]
      | false =>
        -- no NaN: the larger (in heap order) of three
        rw [extStep_eq top hm x, extStep_eq top hx y]
        cases hmx : less top m x with
        | true =>
          rw [if_pos rfl, extStep_eq top hx]
          cases hxy : less top x y with
          | true => rw [if_pos rfl, extStep_eq top hm, less_trans L top m x y hm hx hy hmx hxy, if_pos rfl]
          | false => rw [if_neg Bool.false_ne_true, extStep_eq top hm, hmx, if_pos rfl]
        | false =>
          rw [if_neg Bool.false_ne_true, extStep_eq top hm]
          cases hxy : less top x y with
          | true => rw [if_pos rfl, extStep_eq top hm]
          | false =>
            rw [if_neg Bool.false_ne_true, extStep_eq top hm, hmx, less_negtrans L top m x y hm hx hy hmx hxy,
              if_neg Bool.false_ne_true, if_neg Bool.false_ne_true]

theorem aggReduce_max_eq (p : V) (vals : List V) :
    aggReduce "max" p vals = red1 (extStep true) nan vals := by
  cases vals <;> rfl

theorem aggReduce_min_eq (p : V) (vals : List V) :
    aggReduce "min" p vals = red1 (extStep false) nan vals := by
  cases vals <;> rfl

theorem aggReduce_sum_eq (p : V) (vals : List V) :
    aggReduce "sum" p vals = red1 add nan vals := by
  cases vals <;> rfl

theorem aggReduce_count_eq (p : V) (l : List V) :
    aggReduce "count" p l = if l.isEmpty then nan else ofInt l.length := by
  cases l <;> rfl

theorem aggReduce_group_eq (p : V) (l : List V) : aggReduce "group" p l = if l.isEmpty then nan else one := by
  cases l <;> rfl

theorem aggReduce_quantile_eq (p : V) (l : List V) : aggReduce "quantile" p l = quantileK p l := by
  cases l <;> rfl

end PromqlVerif
