/-
`coalesceOperator.Next` for children that are aligned (the same step timestamps in their batches,
which is what siblings of one plan deliver): whatever the order of arrival, the merged batch has
those timestamps and, per step, every child's samples with shifted IDs - a rearrangement of the
children's vectors taken in child order; IDs stay valid and distinct.
-/
import PromqlVerif.Coalesce
import PromqlVerif.Proofs.Shards
namespace PromqlVerif
open Val

variable {V : Type}

theorem mergedSpec_nil (ts : List Int) : mergedSpec ts ([] : List (Nat × List (SV V))) = ts.map fun t => (t, []) := by
  induction ts with
  | nil => rfl
  | cons t ts ih => simp [mergedSpec, ih]

theorem mergedSpec_ts (ts : List Int) (as : List (Nat × List (SV V))) : (mergedSpec ts as).map (·.1) = ts := by
  induction ts generalizing as with
  | nil => rfl
  | cons t ts ih => simp [mergedSpec, ih]

theorem mem_mergedSpec {ts : List Int} {as : List (Nat × List (SV V))} {sv : SV V} (h : sv ∈ mergedSpec ts as) :
    ∃ k, sv.2 = as.flatMap fun a => shiftIds a.1 (headSamples (a.2.drop k)) := by
  induction ts generalizing as with
  | nil => cases h
  | cons t ts ih =>
    rcases List.mem_cons.mp h with rfl | h
    · exact ⟨0, rfl⟩
    · obtain ⟨k, hk⟩ := ih h
      exact ⟨k + 1, by simp only [hk, List.flatMap_map, List.drop_tail]⟩

theorem mergeBatch_spec (off : Nat) :
    ∀ (ts : List Int) (as : List (Nat × List (SV V))) (inp : List (SV V)), inp.map (·.1) = ts →
      mergeBatch off (mergedSpec ts as) inp = some (mergedSpec ts (as ++ [(off, inp)])) := by
  intro ts
  induction ts with
  | nil =>
    intro as inp h
    have : inp = [] := List.map_eq_nil_iff.mp h
    subst this
    cases as <;> rfl
  | cons t ts ih =>
    intro as inp h
    cases inp with
    | nil => cases h
    | cons i is =>
      simp only [List.map_cons, List.cons.injEq] at h
      obtain ⟨hi, his⟩ := h
      simp only [mergedSpec, mergeBatch]
      rw [ih (as.map fun a => (a.1, a.2.tail)) is his]
      simp only [Option.map_some, List.map_append, List.map_cons, List.map_nil, List.tail_cons, List.flatMap_append,
        List.flatMap_cons, List.flatMap_nil, List.append_nil, mergeSV, headSamples, List.head?_cons, Option.getD_some]
      congr 2
      rw [hi]
      simp

/-- the arrivals of aligned children, all with a batch -/
def AlignedArrivals (ts : List Int) (as : List (Nat × List (SV V))) : Prop := ∀ a ∈ as, a.2.map (·.1) = ts

theorem arrive_merged (ts : List Int) (pre : List (Nat × List (SV V))) (a : Nat × List (SV V))
    (ha : a.2.map (·.1) = ts) :
    arrive (some (mergedSpec ts pre)) a.1 (some a.2) = .ok (some (mergedSpec ts (pre ++ [a]))) := by
  simp only [arrive]
  rw [mergeBatch_spec a.1 ts pre a.2 ha]

theorem arrive_first (ts : List Int) (hts : ts ≠ []) (a : Nat × List (SV V)) (ha : a.2.map (·.1) = ts) :
    arrive none a.1 (some a.2) = .ok (some (mergedSpec ts [a])) := by
  have hane : a.2.isEmpty = false := by
    cases h : a.2 with
    | nil => rw [h] at ha; exact absurd ha.symm hts
    | cons _ _ => rfl
  have hinit : (a.2.map fun sv => (sv.1, ([] : IdVec V))) = mergedSpec ts [] := by
    rw [mergedSpec_nil, ← ha, List.map_map]
    rfl
  simp only [arrive, hane, Bool.false_eq_true, if_false]
  rw [hinit, mergeBatch_spec a.1 ts [] a.2 ha]
  rfl

theorem coalesce_from (ts : List Int) (pre suf : List (Nat × List (SV V))) (hsuf : AlignedArrivals ts suf) :
    (suf.map fun a => (a.1, some a.2)).foldl coStep (.ok (some (mergedSpec ts pre)))
      = .ok (some (mergedSpec ts (pre ++ suf))) := by
  induction suf generalizing pre with
  | nil => simp
  | cons a suf ih =>
    have ha := hsuf a List.mem_cons_self
    simp only [List.map_cons, List.foldl_cons, coStep]
    rw [arrive_merged ts pre a ha, ih (pre ++ [a]) (fun b hb => hsuf b (List.mem_cons_of_mem _ hb))]
    simp [List.append_assoc]

/-- **`Next` of the coalesce operator, for every order of arrival**: with aligned children (each
returns a batch with the step timestamps `ts`, at least one step), the merged batch is
`mergedSpec`: the timestamps `ts` and per step the arrivals' samples with shifted IDs -/
theorem coalesceNext_spec (ts : List Int) (hts : ts ≠ []) (as : List (Nat × List (SV V)))
    (has : AlignedArrivals ts as) (hne : as ≠ []) :
    coalesceNext (as.map fun a => (a.1, some a.2)) = .ok (some (mergedSpec ts as)) := by
  cases as with
  | nil => exact absurd rfl hne
  | cons a as =>
    have ha := has a List.mem_cons_self
    unfold coalesceNext
    simp only [List.map_cons, List.foldl_cons, coStep]
    rw [arrive_first ts hts a ha, coalesce_from ts [a] as (fun b hb => has b (List.mem_cons_of_mem _ hb))]
    rfl

theorem mergedSpec_perm (ts : List Int) (as as' : List (Nat × List (SV V))) (h : as.Perm as') :
    All2 (fun (x y : SV V) => x.1 = y.1 ∧ x.2.Perm y.2) (mergedSpec ts as) (mergedSpec ts as') := by
  induction ts generalizing as as' with
  | nil => exact All2.nil
  | cons t ts ih =>
    simp only [mergedSpec]
    exact All2.cons ⟨rfl, h.flatMap_right _⟩ (ih _ _ (h.map _))

theorem shiftIds_eq_rebase (off : Nat) (xs : IdVec V) : shiftIds off xs = rebase off xs := rfl

theorem shiftIds_ids (off : Nat) (xs : IdVec V) : (shiftIds off xs).map (·.1) = (xs.map (·.1)).map (· + off) := by
  simp [shiftIds, Function.comp_def]

/-- the arrivals with the sizes of their children: ranges pairwise disjoint -/
def DisjointRanges (as : List ((Nat × List (SV V)) × Nat)) : Prop :=
  as.Pairwise fun a b => a.1.1 + a.2 ≤ b.1.1 ∨ b.1.1 + b.2 ≤ a.1.1

/-- an arrival's IDs lie below the child's number of series and are distinct within a step -/
structure Ranged (a : Nat × List (SV V)) (size : Nat) : Prop where
  valid : ∀ sv ∈ a.2, ∀ x ∈ sv.2, x.1 < size
  nodup : ∀ sv ∈ a.2, (sv.2.map (·.1)).Nodup

theorem Ranged.step {a : Nat × List (SV V)} {size : Nat} (h : Ranged a size) (k : Nat) :
    (∀ x ∈ headSamples (a.2.drop k), x.1 < size) ∧ ((headSamples (a.2.drop k)).map (·.1)).Nodup := by
  unfold headSamples
  rw [List.head?_drop]
  cases hk : a.2[k]? with
  | none => exact ⟨nofun, List.Pairwise.nil⟩
  | some sv => exact ⟨h.valid sv (List.mem_of_getElem? hk), h.nodup sv (List.mem_of_getElem? hk)⟩

/-- every step of the merged batch: IDs pairwise distinct, each within some child's range -/
theorem merged_ids (ts : List Int) (as : List ((Nat × List (SV V)) × Nat)) (hr : ∀ a ∈ as, Ranged a.1 a.2)
    (hd : DisjointRanges as) :
    ∀ sv ∈ mergedSpec ts (as.map (·.1)), (sv.2.map (·.1)).Nodup ∧
      ∀ id ∈ sv.2.map (·.1), ∃ a ∈ as, a.1.1 ≤ id ∧ id < a.1.1 + a.2 := by
  intro sv hsv
  obtain ⟨k, hk⟩ := mem_mergedSpec hsv
  have hids : ∀ a ∈ as, ∀ id ∈ (shiftIds a.1.1 (headSamples (a.1.2.drop k))).map (·.1),
      a.1.1 ≤ id ∧ id < a.1.1 + a.2 := fun a ha => by
    rw [shiftIds_eq_rebase]
    exact List.forall_mem_map.mpr (rebase_range a.1.1 a.2 _ ((hr a ha).step k).1)
  have hnod : ∀ a ∈ as, ((shiftIds a.1.1 (headSamples (a.1.2.drop k))).map (·.1)).Nodup := fun a ha => by
    rw [shiftIds_ids]
    exact List.Pairwise.map _ (fun x y hxy h => hxy (by omega)) ((hr a ha).step k).2
  rw [hk, List.flatMap_map, List.map_flatMap]
  refine ⟨List.pairwise_flatMap.mpr ⟨hnod, hd.imp_of_mem fun {a b} ha hb h x hx y hy => ?_⟩, fun id hid => ?_⟩
  · have := hids a ha x hx
    have := hids b hb y hy
    omega
  · obtain ⟨a, ha, h⟩ := List.mem_flatMap.mp hid
    exact ⟨a, ha, hids a ha id h⟩

theorem offsetsOf_cons (a : Nat) (l : List Nat) : offsetsOf (a :: l) = 0 :: (offsetsOf l).map (· + a) := by
  unfold offsetsOf
  rw [List.length_cons, List.range_succ_eq_map, List.map_cons, List.map_map, List.map_map]
  simp [Nat.add_comm]

/-- with the sums of the sizes before them as offsets (`offsetsOf`), the ID range of child `i` ends no
later than that of a later child `j` starts -/
theorem offsets_disjoint (sizes : List Nat) (i j : Nat) (hij : i < j) (hj : j < sizes.length) :
    (sizes.take i).sum + sizes.getD i 0 ≤ (sizes.take j).sum := by
  obtain ⟨d, rfl⟩ := Nat.exists_eq_add_of_lt hij
  have hi : sizes[i]? = some (sizes.getD i 0) := by
    simp [List.getD_eq_getElem?_getD, List.getElem?_eq_getElem (by omega : i < sizes.length)]
  rw [show i + d + 1 = (i + 1) + d by omega, List.take_add, List.sum_append, List.take_add_one, List.sum_append, hi]
  simp only [Option.toList_some, List.sum_cons, List.sum_nil]
  omega

end PromqlVerif
