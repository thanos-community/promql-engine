/-
Sharding is transparent: the series of a selector are split over several vectorSelector operators
(one per shard, `execution.go`), each produces its batches as in `SelOp.lean`, and the coalesce
operator merges them (`Coalesce.lean`). For every split, every batch and every order in which the
shards' goroutines arrive, the merged step vectors are - up to the order of the samples within a
step - the per-step selection over all the series.
-/
import PromqlVerif.SelOp
import PromqlVerif.Proofs.Enum
import PromqlVerif.Proofs.CoalesceProof
namespace PromqlVerif
open Val

variable {V : Type}

/-- a per-series evaluation `f` (a selection, a range function) over a series list, with IDs
counted from `n` -/
def perStepFrom (f : List (Sample V) → Int → Option V) (n : Nat) (series : List (List (Sample V))) (ref : Int) : IdVec V :=
  (enumFrom n series).filterMap fun (i, s) => (f s ref).map fun v => (i, v)

def perStep (f : List (Sample V) → Int → Option V) (series : List (List (Sample V))) (ref : Int) : IdVec V :=
  perStepFrom f 0 series ref

theorem selectStep_eq_perStep (lookback : Int) :
    selectStep (V := V) lookback = perStep fun s r => (selectSample lookback r s).map (·.2) := by
  funext series ref
  unfold selectStep perStep perStepFrom enum
  congr 1
  funext p
  simp [Option.map_map, Function.comp_def]

theorem rangeStep_eq_perStep [Val V] (fn : String) (range : Int) :
    rangeStep (V := V) fn range = perStep fun s r =>
      rangeKernel fn (windowPoints (r - range) r s) (r - range) r (rangeSeconds range) := by
  funext series ref
  rfl

theorem perStepFrom_shift (f : List (Sample V) → Int → Option V) (n : Nat) (series : List (List (Sample V))) (ref : Int) :
    perStepFrom f n series ref = shiftIds n (perStep f series ref) := by
  unfold perStep perStepFrom shiftIds
  rw [← Nat.zero_add n, enumFrom_add, List.filterMap_map, List.map_filterMap, Nat.zero_add]
  exact filterMap_congr' fun ⟨i, s⟩ _ => by cases h : f s ref <;> simp [h]

theorem perStepFrom_append (f : List (Sample V) → Int → Option V) (n : Nat) (A B : List (List (Sample V))) (ref : Int) :
    perStepFrom f n (A ++ B) ref
      = perStepFrom f n A ref ++ perStepFrom f (n + A.length) B ref := by
  unfold perStepFrom
  rw [enumFrom_append, List.filterMap_append]

/-- the shards' step vectors, each shifted by its shard's offset, put together in shard order are the
step vector over all the series (`n`: where the numbering starts, for the induction) -/
theorem select_shards (f : List (Sample V) → Int → Option V) (ref : Int) (n : Nat) (shards : List (List (List (Sample V)))) :
    (((offsetsOf (shards.map List.length)).map (· + n)).zip shards).flatMap (fun s => shiftIds s.1 (perStep f s.2 ref))
      = perStepFrom f n shards.flatten ref := by
  induction shards generalizing n with
  | nil => rfl
  | cons sh shs ih =>
    rw [List.map_cons, offsetsOf_cons, List.map_cons, List.map_map, List.zip_cons_cons, List.flatMap_cons,
      List.flatten_cons, perStepFrom_append, ← ih (n + sh.length), perStepFrom_shift, Nat.zero_add]
    congr 3
    exact List.map_congr_left fun x _ => by simp only [Function.comp]; omega

/-- what a shard hands to the coalesce operator for one batch: per reference time `r` the step
vector stamped `stamp r` (`r` plus the selector's offset) -/
def shardArrival (f : List (Sample V) → Int → Option V) (stamp : Int → Int) (refs : List Int) (s : Nat × List (List (Sample V))) :
    Nat × List (SV V) :=
  (s.1, refs.map fun r => (stamp r, perStep f s.2 r))

theorem mergedSpec_shards (f : List (Sample V) → Int → Option V) (stamp : Int → Int) (refs : List Int)
    (sh : List (Nat × List (List (Sample V)))) :
    mergedSpec (refs.map stamp) (sh.map (shardArrival f stamp refs))
      = refs.map fun r => (stamp r, sh.flatMap fun s => shiftIds s.1 (perStep f s.2 r)) := by
  induction refs with
  | nil => rfl
  | cons r rs ih =>
    simp only [List.map_cons, mergedSpec, List.map_map, List.flatMap_map, ← ih]
    rfl

/-- **sharding is transparent**: the series split into shards in any way, one batch of reference
times `refs` (at least one), the shards' goroutines arriving at the coalesce operator in any order
`arr` (a rearrangement of the shards with their offsets): `Next` succeeds, the batch carries the
step timestamps, and every step vector is a rearrangement of the per-step selection over all the
series, with IDs that index the concatenated series list. -/
theorem sharded_batch (f : List (Sample V) → Int → Option V) (stamp : Int → Int) (refs : List Int) (hrefs : refs ≠ [])
    (shards : List (List (List (Sample V)))) (hsh : shards ≠ [])
    (arr : List (Nat × List (List (Sample V))))
    (harr : arr.Perm ((offsetsOf (shards.map List.length)).zip shards)) :
    ∃ out, coalesceNext ((arr.map (shardArrival f stamp refs)).map fun a => (a.1, some a.2)) = .ok (some out) ∧
      All2 (fun (sv : SV V) (r : Int) => sv.1 = stamp r ∧ sv.2.Perm (perStep f shards.flatten r)) out refs := by
  have hal : AlignedArrivals (refs.map stamp) (arr.map (shardArrival f stamp refs)) := by
    intro a ha
    obtain ⟨s, _, rfl⟩ := List.mem_map.mp ha
    simp [shardArrival, List.map_map, Function.comp_def]
  have hlen : arr.length = shards.length := by
    rw [harr.length_eq]
    simp [offsetsOf]
  have hne : arr.map (shardArrival f stamp refs) ≠ [] := fun h =>
    hsh (List.length_eq_zero_iff.mp (by rw [← hlen, List.map_eq_nil_iff.mp h]; rfl))
  refine ⟨_, coalesceNext_spec (refs.map stamp) (mt List.map_eq_nil_iff.mp hrefs) _ hal hne, ?_⟩
  rw [mergedSpec_shards]
  have hstep : ∀ r, (arr.flatMap fun s => shiftIds s.1 (perStep f s.2 r)).Perm
      (perStep f shards.flatten r) := by
    intro r
    have h := select_shards f r 0 shards
    rw [show (fun x : Nat => x + 0) = id from rfl, List.map_id] at h
    exact (harr.flatMap_right _).trans (.of_eq h)
  clear hal hne hrefs
  induction refs with
  | nil => exact All2.nil
  | cons r rs ih => exact All2.cons ⟨rfl, hstep r⟩ ih

end PromqlVerif
