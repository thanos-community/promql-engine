/-
The reference operators do not depend on the order of their input vectors, up to the order of the
output: aggregation (for a reduction that does not depend on the order of the members) and
one-to-one vector matching with pairwise distinct match keys. These are the steps that let the
"engine = reference up to order" statements compose through nested operators
(`Proofs/TheoremP.lean`).
-/
import PromqlVerif.Proofs.Agg
import PromqlVerif.Proofs.JoinPos
import PromqlVerif.Proofs.Pushdown
namespace PromqlVerif
open Val

variable {V : Type} [Val V]

/-- **the reference aggregation does not depend on the order of its input**, up to the order of the
groups, when the reduction does not depend on the order of the members -/
theorem aggregate_perm (op : String) (w : Bool) (g : List String) (p : V) (v v' : Vec V) (hv : v.Perm v')
    (hop : (op == "topk" || op == "bottomk") = false)
    (hP : ∀ l l' : List V, l.Perm l' → aggReduce op p l = aggReduce op p l') :
    ∃ out out', aggregate op w g p v = .ok out ∧ aggregate op w g p v' = .ok out' ∧ out.Perm out' :=
  ⟨_, _, aggregate_eq op w g p v hop, aggregate_eq op w g p v' hop,
    groupBy_perm _ hv (fun k (G : Vec V) => (k, aggReduce op p (G.map (·.2)))) fun _ _ _ h => by rw [hP _ _ (h.map _)]⟩

/-- in a list with pairwise distinct keys, the first element with a given key is the only one: a
permutation finds the same -/
theorem find_perm_unique {α κ : Type} [BEq κ] [LawfulBEq κ] (key : α → κ) (l l' : List α) (h : l.Perm l')
    (hnd : (l.map key).Nodup) (k : κ) :
    l.find? (fun r => key r == k) = l'.find? (fun r => key r == k) := by
  apply Option.ext
  intro a
  rw [find?_key_eq_some_iff key hnd, find?_key_eq_some_iff key ((h.map key).nodup_iff.mp hnd), h.mem_iff]

/-- **one-to-one matching with pairwise distinct match keys does not depend on the order of its
operands**, up to the order of the output -/
theorem vectorBinop_perm (op : String) (bool : Bool) (m : Matching) (hc : m.card = .oneToOne)
    (lhs lhs' rhs rhs' : Vec V) (hl : lhs.Perm lhs') (hr : rhs.Perm rhs')
    (hlu : (lhs.map fun x => sigLabels m x.1).Nodup) (hru : (rhs.map fun x => sigLabels m x.1).Nodup) :
    ∃ out out', vectorBinop op bool m lhs rhs = .ok out ∧ vectorBinop op bool m lhs' rhs' = .ok out' ∧
      out.Perm out' := by
  have hlu' : (lhs'.map fun x => sigLabels m x.1).Nodup := (hl.map _).nodup_iff.mp hlu
  have hru' : (rhs'.map fun x => sigLabels m x.1).Nodup := (hr.map _).nodup_iff.mp hru
  refine ⟨_, _, vectorBinop_unique op bool m hc lhs rhs hlu hru, vectorBinop_unique op bool m hc lhs' rhs' hlu' hru', ?_⟩
  have hfun : refPair op bool m rhs' = refPair op bool m rhs := by
    funext ls
    rw [refPair_eq, refPair_eq, find_perm_unique (fun r : Labels × V => sigLabels m r.1) rhs rhs' hr hru (sigLabels m ls.1)]
  rw [hfun]
  exact hl.filterMap _

theorem red1_perm {α : Type} (f : α → α → α) (d : α) (hassoc : ∀ a b c, f (f a b) c = f a (f b c))
    (hcomm : ∀ a b, f a b = f b a) (l l' : List α) (h : l.Perm l') : red1 f d l = red1 f d l' := by
  induction h with
  | nil => rfl
  | cons x h _ => exact h.foldl_eq' (fun a _ b _ c => by rw [hassoc, hcomm a b, ← hassoc]) x
  | swap x y l => show l.foldl f (f y x) = l.foldl f (f x y); rw [hcomm]
  | trans _ _ ih1 ih2 => exact ih1.trans ih2

/-- the replacement step of `max`/`min` is commutative where incomparable values are equal: a
trichotomy on non-NaN values (of IEEE doubles: up to the sign of zero) and a single NaN -/
theorem extStep_comm (L : LtLaws (fun v : V => isNaN v = false)) (hn : NanLaw V)
    (htri : ∀ a b : V, isNaN a = false → isNaN b = false → lt a b = false → lt b a = false → a = b)
    (hnan : ∀ a b : V, isNaN a = true → isNaN b = true → a = b) (top : Bool) (a b : V) :
    extStep top a b = extStep top b a := by
  cases ha : isNaN a <;> cases hb : isNaN b
  · -- two numbers: the one that is `less` goes; if neither is, they are equal
    rw [extStep_eq top ha, extStep_eq top hb]
    cases h1 : less top a b <;> cases h2 : less top b a
    · simp only [Bool.false_eq_true, if_false]
      cases top
      · exact htri a b ha hb h2 h1
      · exact htri a b ha hb h1 h2
    · rfl
    · rfl
    · rw [less_asymm L top a b ha hb h1] at h2; cases h2
  · rw [extStep_nan_right hn top ha hb, extStep_nan top hb]
  · rw [extStep_nan top ha, extStep_nan_right hn top hb ha]
  · rw [extStep_nan top ha, extStep_nan top hb]
    exact hnan b a hb ha

theorem perm_hyp_max (L : LtLaws (fun v : V => isNaN v = false)) (hn : NanLaw V)
    (htri : ∀ a b : V, isNaN a = false → isNaN b = false → lt a b = false → lt b a = false → a = b)
    (hnan : ∀ a b : V, isNaN a = true → isNaN b = true → a = b) (p : V) :
    ∀ l l' : List V, l.Perm l' → aggReduce "max" p l = aggReduce "max" p l' := by
  intro l l' h
  rw [aggReduce_max_eq, aggReduce_max_eq]
  exact red1_perm _ _ (extStep_assoc L hn true) (extStep_comm L hn htri hnan true) l l' h

theorem perm_hyp_min (L : LtLaws (fun v : V => isNaN v = false)) (hn : NanLaw V)
    (htri : ∀ a b : V, isNaN a = false → isNaN b = false → lt a b = false → lt b a = false → a = b)
    (hnan : ∀ a b : V, isNaN a = true → isNaN b = true → a = b) (p : V) :
    ∀ l l' : List V, l.Perm l' → aggReduce "min" p l = aggReduce "min" p l' := by
  intro l l' h
  rw [aggReduce_min_eq, aggReduce_min_eq]
  exact red1_perm _ _ (extStep_assoc L hn false) (extStep_comm L hn htri hnan false) l l' h

theorem perm_hyp_sum (hassoc : ∀ a b c : V, add (add a b) c = add a (add b c)) (hcomm : ∀ a b : V, add a b = add b a)
    (p : V) : ∀ l l' : List V, l.Perm l' → aggReduce "sum" p l = aggReduce "sum" p l' := by
  intro l l' h
  rw [aggReduce_sum_eq, aggReduce_sum_eq]
  exact red1_perm _ _ hassoc hcomm l l' h

theorem perm_hyp_count (p : V) : ∀ l l' : List V, l.Perm l' → aggReduce "count" p l = aggReduce "count" p l' := by
  intro l l' h
  rw [aggReduce_count_eq, aggReduce_count_eq, h.isEmpty_eq, h.length_eq]

theorem perm_hyp_group (p : V) : ∀ l l' : List V, l.Perm l' → aggReduce "group" p l = aggReduce "group" p l' := by
  intro l l' h
  rw [aggReduce_group_eq, aggReduce_group_eq, h.isEmpty_eq]

section quantile
variable (L : LtLaws (fun v : V => isNaN v = false)) (hn : NanLaw V)
  (htri : ∀ a b : V, isNaN a = false → isNaN b = false → lt a b = false → lt b a = false → a = b)
  (hnan : ∀ a b : V, isNaN a = true → isNaN b = true → a = b)

include hn in
theorem ltNaNFirst_eq (a b : V) : ltNaNFirst a b = if isNaN a then !isNaN b else (!isNaN b && lt a b) := by
  unfold ltNaNFirst
  cases ha : isNaN a
  · cases hb : isNaN b
    · simp
    · simp [(hn b a hb).2]
  · simp [(hn a b ha).1]

include L hn in
theorem ltNaNFirst_negtrans (a b c : V) (h1 : ltNaNFirst a b = false) (h2 : ltNaNFirst b c = false) :
    ltNaNFirst a c = false := by
  rw [ltNaNFirst_eq hn] at h1 h2 ⊢
  cases ha : isNaN a <;> cases hb : isNaN b <;> cases hc : isNaN c <;> simp [ha, hb, hc] at h1 h2 ⊢
  exact L.negtrans a b c ha hb hc h1 h2

include L hn in
theorem ltNaNFirst_asymm (a b : V) (h : ltNaNFirst a b = true) : ltNaNFirst b a = false := by
  rw [ltNaNFirst_eq hn] at h ⊢
  cases ha : isNaN a <;> cases hb : isNaN b <;> simp [ha, hb] at h ⊢
  exact L.asymm a b ha hb h

include hn htri hnan in
theorem ltNaNFirst_incomp (a b : V) (h1 : ltNaNFirst a b = false) (h2 : ltNaNFirst b a = false) : a = b := by
  rw [ltNaNFirst_eq hn] at h1 h2
  cases ha : isNaN a <;> cases hb : isNaN b <;> simp [ha, hb] at h1 h2
  · exact htri a b ha hb h1 h2
  · exact hnan a b ha hb

include L hn htri hnan in
/-- the sort of `quantile` gives the same list for every order of the input: its comparison is a
total preorder in which only equal values are equivalent, so the sorted list is unique -/
theorem sortNaNFirst_perm (l l' : List V) (h : l.Perm l') : sortNaNFirst l = sortNaNFirst l' := by
  have trans : ∀ a b c : V, (!ltNaNFirst b a) = true → (!ltNaNFirst c b) = true → (!ltNaNFirst c a) = true := by
    intro a b c h1 h2
    rw [Bool.not_eq_true'] at h1 h2 ⊢
    exact ltNaNFirst_negtrans L hn c b a h2 h1
  have total : ∀ a b : V, (!ltNaNFirst b a || !ltNaNFirst a b) = true := by
    intro a b
    cases hba : ltNaNFirst b a with
    | false => rfl
    | true => rw [ltNaNFirst_asymm L hn b a hba]; rfl
  refine List.Perm.eq_of_pairwise (le := fun a b => (!ltNaNFirst b a) = true) (fun a b _ _ h1 h2 => ?_)
    (List.pairwise_mergeSort trans total l) (List.pairwise_mergeSort trans total l')
    (((List.mergeSort_perm l _).trans h).trans (List.mergeSort_perm l' _).symm)
  rw [Bool.not_eq_true'] at h1 h2
  exact ltNaNFirst_incomp hn htri hnan a b h2 h1

include L hn htri hnan in
theorem perm_hyp_quantile (p : V) : ∀ l l' : List V, l.Perm l' → aggReduce "quantile" p l = aggReduce "quantile" p l' := by
  intro l l' h
  rw [aggReduce_quantile_eq, aggReduce_quantile_eq]
  unfold quantileK
  rw [sortNaNFirst_perm L hn htri hnan l l' h, h.isEmpty_eq]

end quantile

end PromqlVerif
