/-
`selectPoint` over the memoized iterator is the declarative selection `selectSample`. The memoized
iterator is the buffered iterator (`BufProof.lean`) that remembers of its ring only the newest
sample, so what `Seek` does to it is read off the buffered iterator's `seekB_spec`.
-/
import PromqlVerif.Proofs.BufProof
namespace PromqlVerif

variable {V : Type}

/-- what is known between two calls: `S = pre ++ rest`, everything passed is older than `bound`,
`prev` is the sample right before the cursor or, after a jump, everything passed is older than the
look-behind window; `lastTime` is the time of the sample under the cursor, or not set yet: the fresh
iterator -/
def MInv (S : List (Sample V)) (delta : Int) (m : Memo V) (bound : Int) : Prop :=
  ∃ pre, S = pre ++ m.rest ∧ (∀ s ∈ pre, s.t < bound) ∧
    (match m.rest with
     | x :: _ => m.lastTime = some x.t ∨ (m.lastTime = none ∧ pre = [] ∧ m.prev = none)
     | [] => True) ∧
    (match m.prev with
     | some p => pre.getLast? = some p
     | none => ∀ s ∈ pre, s.t < bound - delta)

theorem minv_new (S : List (Sample V)) (delta b : Int) : MInv S delta (Memo.new S) b := by
  refine ⟨[], rfl, nofun, ?_, nofun⟩
  cases S <;> simp [Memo.new]

/-- the memoized iterator a buffered one stands for: `Seek` commutes with forgetting all of the ring
but its newest sample (`seek_memo`) -/
def Buf.memo (b : Buf V) : Memo V := { rest := b.rest, lastTime := b.lastTime, prev := b.ring.getLast? }

theorem ringAdd_getLast (delta : Int) (hd : 0 ≤ delta) (ring : List (Sample V)) (x : Sample V) :
    (ringAdd delta ring x).getLast? = some x := by
  rw [ringAdd, List.dropWhile_append, List.dropWhile_cons_of_neg (by simp only [decide_eq_true_eq]; omega)]
  split
  · rfl
  · exact List.getLast?_concat

theorem nextLoop_memo (delta t : Int) (hd : 0 ≤ delta) (ring : List (Sample V)) (lastTime : Option Int)
    (rest : List (Sample V)) :
    Memo.nextLoop t ring.getLast? lastTime rest =
      ((Buf.nextLoop delta t ring lastTime rest).1.memo, (Buf.nextLoop delta t ring lastTime rest).2) := by
  fun_induction Buf.nextLoop delta t ring lastTime rest with
  | case1 => rfl
  | case2 => simp only [Memo.nextLoop, Buf.memo, ringAdd_getLast delta hd]
  | case3 _ _ x y tl' hy => simp only [Memo.nextLoop, Buf.memo, if_pos hy, ringAdd_getLast delta hd]
  | case4 _ _ x y tl' hy ih => simp only [Memo.nextLoop, if_neg hy, ← ih, ringAdd_getLast delta hd]

theorem seek_memo (delta : Int) (hd : 0 ≤ delta) (b : Buf V) (t : Int) :
    b.memo.seek delta t = ((b.seek delta t).1.memo, (b.seek delta t).2) := by
  unfold Memo.seek Buf.seek
  cases hj : (!b.rest.isEmpty && ltOpt b.lastTime (t - delta)) with
  | true =>
    simp only [Buf.memo, hj, ↓reduceIte]
    cases b.rest.dropWhile (fun s => decide (s.t < t - delta)) with
    | nil => rfl
    | cons x r =>
      simp only
      split
      · rfl
      · exact nextLoop_memo delta t hd [] _ _
  | false =>
    simp only [Buf.memo, hj, Bool.false_eq_true, ↓reduceIte]
    split
    · rfl
    · exact nextLoop_memo delta t hd _ _ _

theorem BInv.memo {S : List (Sample V)} {delta bound : Int} {b : Buf V} (hd : 0 ≤ delta)
    (h : BInv S delta b bound) : MInv S delta b.memo bound := by
  obtain ⟨rest, lastTime, ring⟩ := b
  obtain ⟨old, hS, hold, hring, hlast⟩ := h
  refine ⟨old ++ ring, by rw [hS, List.append_assoc]; rfl,
    List.forall_mem_append.mpr ⟨fun s h => by have := hold s h; omega, hring⟩, ?_, ?_⟩
  · cases rest with
    | nil => trivial
    | cons x r =>
      exact hlast.imp id fun ⟨h1, (h2 : old = []), (h3 : ring = [])⟩ => ⟨h1, by rw [h2, h3]; rfl, by rw [h3]; rfl⟩
  · simp only [Buf.memo]
    cases hl : ring.getLast? with
    | some p => simp [List.getLast?_append, hl]
    | none => rw [List.getLast?_eq_none_iff.mp hl, List.append_nil]; exact hold

/-- every state of the memoized iterator is that of some buffered one: a ring that has kept all
that was passed, or - after a jump - nothing -/
theorem MInv.buf {S : List (Sample V)} {delta bound : Int} {m : Memo V} (h : MInv S delta m bound) :
    ∃ b : Buf V, b.memo = m ∧ BInv S delta b bound := by
  obtain ⟨rest, lastTime, prev⟩ := m
  obtain ⟨pre, hS, hpre, hlast, hprev⟩ := h
  cases prev with
  | none =>
    refine ⟨⟨rest, lastTime, []⟩, rfl, pre, hS, hprev, nofun, ?_⟩
    cases rest with
    | nil => trivial
    | cons x r => exact hlast.imp id fun ⟨h1, h2, _⟩ => ⟨h1, h2, rfl⟩
  | some p =>
    refine ⟨⟨rest, lastTime, pre⟩, by simp only [Buf.memo]; rw [hprev], [], hS, nofun, hpre, ?_⟩
    cases rest with
    | nil => trivial
    | cons x r => exact hlast.imp id fun ⟨_, _, h3⟩ => nomatch h3

/-- **`Seek(t)` of the memoized iterator**, for a non-decreasing sequence of targets: afterwards the
cursor is the first sample at or after `t` (or the iterator is exhausted), everything before it is
older than `t`, and `PeekPrev` is the sample right before the cursor unless a jump made
everything before the cursor older than `t - delta`. -/
theorem seek_spec (S : List (Sample V)) (hs : SortedT S) (delta : Int) (hd : 0 ≤ delta) (m : Memo V)
    (b t : Int) (hb : b ≤ t) (h : MInv S delta m b) :
    MInv S delta (m.seek delta t).1 t ∧
      (match (m.seek delta t).1.rest with
       | x :: _ => x.t ≥ t ∧ (m.seek delta t).2 = true
       | [] => (m.seek delta t).2 = false) := by
  obtain ⟨b', rfl, hb'⟩ := h.buf
  rw [seek_memo delta hd]
  obtain ⟨h1, h2⟩ := seekB_spec S hs delta b' b t hb hb'
  exact ⟨h1.memo hd, h2⟩

def latestPos (pre rest : List (Sample V)) (t : Int) : Option (Sample V) :=
  match rest with
  | x :: _ => if x.t > t then pre.getLast? else some x
  | [] => pre.getLast?

theorem latest_of_position (pre rest : List (Sample V)) (t : Int) (hs : SortedT (pre ++ rest))
    (hpre : ∀ s ∈ pre, s.t < t) (hrest : ∀ x r, rest = x :: r → x.t ≥ t) :
    latestAtOrBefore (pre ++ rest) t = latestPos pre rest t := by
  unfold latestAtOrBefore latestPos
  rw [List.filter_append, List.filter_eq_self.mpr fun s h => decide_eq_true (by have := hpre s h; omega)]
  cases rest with
  | nil => simp
  | cons x r =>
    have hx := hrest x r rfl
    have hr : r.filter (fun s => decide (s.t ≤ t)) = [] := List.filter_eq_nil_iff.mpr fun s h => by
      have := List.rel_of_pairwise_cons (List.pairwise_append.mp hs).2.1 h
      simp only [decide_eq_true_eq]; omega
    by_cases hgt : x.t > t
    · simp [hr, hgt, show ¬ x.t ≤ t by omega]
    · simp [hr, hgt, show x.t ≤ t by omega]

/-- **C02, operational half: `selectPoint` over the memoized iterator is the reference selection** -
for any strictly increasing series, any lookback `≥ 0`, and any state the iterator may be in after
seeks to earlier (or equal) reference times. -/
theorem selectPointM_spec (S : List (Sample V)) (hs : SortedT S) (delta : Int) (hd : 0 ≤ delta) (m : Memo V)
    (b t : Int) (hb : b ≤ t) (h : MInv S delta m b) :
    (selectPointM delta m t).2 = selectSample delta t S ∧ MInv S delta (selectPointM delta m t).1 t := by
  obtain ⟨hinv, hpos⟩ := seek_spec S hs delta hd m b t hb h
  refine ⟨?_, hinv⟩
  obtain ⟨pre, hS, hpre, _, hprev⟩ := hinv
  -- `PeekPrev` within the lookback is the sample before the cursor
  have hprev' : numPt ((m.seek delta t).1.prev.bind fun p => if p.t < t - delta then none else some p) =
      pick (t - delta) pre.getLast? := by
    rw [numPt_bind]
    cases hp : (m.seek delta t).1.prev with
    | some p => rw [hp] at hprev; rw [hprev]
    | none =>
      rw [hp] at hprev
      exact (pick_of_lt fun x hx => hprev x (List.mem_of_getLast? hx)).symm
  rw [selectSample_eq_pick, hS, latest_of_position pre _ t (hS ▸ hs) hpre fun x r hr => by
    rw [hr] at hpos; exact hpos.1]
  unfold selectPointM latestPos
  simp only
  change numPt _ = _
  cases hrest : (m.seek delta t).1.rest with
  | nil =>
    rw [hrest] at hpos
    simpa only [hpos, Bool.false_eq_true, if_false] using hprev'
  | cons x r =>
    rw [hrest] at hpos
    simp only [hpos.2, if_true, List.head?_cons]
    split
    · exact hprev'
    · exact (pick_of_le (by have := hpos.1; omega)).symm

end PromqlVerif
