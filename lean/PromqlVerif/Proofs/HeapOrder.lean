/-
The bounded heap of topk / bottomk keeps the k extreme samples: no kept sample is strictly
"less" (in heap order) than a dropped one. For NaN-free groups and a value order that is a strict
weak order (asymmetric, negatively transitive) - true of `Int` and of IEEE doubles without NaN.
-/
import PromqlVerif.Proofs.HeapPerm
import PromqlVerif.Proofs.OrderLaws
namespace PromqlVerif
open Val

variable {V : Type} [Val V] {α : Type}

theorem heapLess_eq (top : Bool) (a b : V) (ha : isNaN a = false) : heapLess top a b = less top a b := by
  unfold heapLess less gt
  simp [ha]

/-- every entry's value is NaN-free and in the domain of the laws -/
def AllP (P : V → Prop) (h : Array (α × V)) : Prop :=
  ∀ (i : Nat) (x : α × V), h[i]? = some x → P x.2 ∧ isNaN x.2 = false

def HeapOK (top : Bool) (h : Array (α × V)) : Prop :=
  ∀ (c : Nat) (x y : α × V), 0 < c → h[c]? = some x → h[(c - 1) / 2]? = some y → less top x.2 y.2 = false

/-- the heap property everywhere except at the edge between `j` and its parent, where the children
of `j` are compared with the parent of `j` instead -/
def UpInv (top : Bool) (h : Array (α × V)) (j : Nat) : Prop :=
  (∀ (c : Nat) (x y : α × V), 0 < c → c ≠ j → h[c]? = some x → h[(c - 1) / 2]? = some y → less top x.2 y.2 = false) ∧
  (∀ (c : Nat) (x z : α × V), 0 < j → 0 < c → (c - 1) / 2 = j → h[c]? = some x → h[(j - 1) / 2]? = some z → less top x.2 z.2 = false)

theorem allP_iff {P : V → Prop} {h : Array (α × V)} :
    AllP P h ↔ ∀ x ∈ h.toList, P x.2 ∧ isNaN x.2 = false := by
  simp only [AllP, Array.mem_toList_iff, Array.mem_iff_getElem?]
  exact ⟨fun H x ⟨i, hi⟩ => H i x hi, fun H i x hi => H x ⟨i, hi⟩⟩

theorem AllP.mono {P : V → Prop} {h h' : Array (α × V)} (hp : AllP P h) (hs : h'.toList ⊆ h.toList) :
    AllP P h' :=
  allP_iff.mpr fun x hx => allP_iff.mp hp x (hs hx)

theorem parent_lt {c : Nat} (hc : 0 < c) : (c - 1) / 2 < c := by omega

section heap
variable {P : V → Prop} (L : LtLaws P) (top : Bool)
include L

/-- `up` (sift-up) restores the heap property -/
theorem heapUp_ok : ∀ (fuel j : Nat) (h : Array (α × V)), j < fuel → j < h.size → AllP P h → UpInv top h j →
    HeapOK top (heapUp top h fuel j) ∧ AllP P (heapUp top h fuel j) ∧ (heapUp top h fuel j).size = h.size := by
  intro fuel j h hjf hjs hp hinv
  refine ⟨?_, hp.mono (heapUp_perm top fuel j h).subset, heapUp_size top fuel j h⟩
  fun_induction heapUp top h fuel j with
  | case1 => exact absurd hjf (Nat.not_lt_zero _)
  | case2 h fuel j hj0 =>
    -- at the root
    rw [beq_iff_eq] at hj0
    exact fun c x y hc => hinv.1 c x y hc (hj0 ▸ Nat.ne_of_gt hc)
  | case5 h fuel j hj0 i hnone =>
    -- `j` and its parent are in the array
    have hj : 0 < j := Nat.pos_of_ne_zero fun e => hj0 (beq_iff_eq.mpr e)
    exact (hnone _ _ (Array.getElem?_eq_getElem hjs)
      (Array.getElem?_eq_getElem (Nat.lt_trans (parent_lt hj) hjs))).elim
  | case3 h fuel j hj0 i x y hy hx hl =>
    -- already in place
    rw [Bool.not_eq_true', heapLess_eq top _ _ (hp j x hx).2] at hl
    intro c x' y' hc hx' hy'
    by_cases hcj : c = j
    · rw [hcj, hx] at hx'; rw [hcj, hy] at hy'
      cases hx'; cases hy'; exact hl
    · exact hinv.1 c x' y' hc hcj hx' hy'
  | case4 h fuel j hj0 i x y hy hx hl ih =>
    -- exchange with the parent and continue there
    have hj : 0 < j := Nat.pos_of_ne_zero fun e => hj0 (beq_iff_eq.mpr e)
    have hij : i < j := parent_lt hj
    obtain ⟨px, nx⟩ := hp j x hx
    obtain ⟨py, -⟩ := hp i y hy
    rw [Bool.not_eq_true', Bool.not_eq_false, heapLess_eq top _ _ nx] at hl
    have hyx := less_asymm L top _ _ px py hl
    refine ih (Nat.lt_of_lt_of_le hij (Nat.le_of_lt_succ hjf)) (by rw [swap_size]; exact Nat.lt_trans hij hjs)
      (hp.mono (swap_toList_perm hx hy).subset) ⟨?_, ?_⟩
    · intro c x' y' hc hci hx' hy'
      rcases swap_get_cases hx hy hx' with ⟨hcj, rfl⟩ | ⟨hci', -⟩ | ⟨hcj, -, hxc⟩
      · rw [hcj, swap_get_left hx hy (Nat.ne_of_lt hij)] at hy'
        cases hy'; exact hyx
      · exact absurd hci' hci
      · rcases swap_get_cases hx hy hy' with ⟨hpj, rfl⟩ | ⟨hpi, rfl⟩ | ⟨-, -, hyc⟩
        · exact hinv.2 c x' _ hj hc hpj hxc hy
        · -- a sibling of `j`: not below the old parent, which is not below the new one
          exact less_negtrans L top _ _ _ (hp c x' hxc).1 py px (hinv.1 c x' _ hc hcj hxc (hpi ▸ hy)) hyx
        · exact hinv.1 c x' y' hc hcj hxc hyc
    · intro c x' z hi0 hc hpc hx' hz
      have hgp := parent_lt hi0
      rw [swap_get_ne hx hy (Nat.ne_of_lt (Nat.lt_trans hgp hij)) (Nat.ne_of_lt hgp)] at hz
      have hyz := hinv.1 _ _ z hi0 (Nat.ne_of_lt hij) hy hz
      rcases swap_get_cases hx hy hx' with ⟨-, rfl⟩ | ⟨hci, -⟩ | ⟨hcj, -, hxc⟩
      · exact hyz
      · exact absurd (hpc ▸ parent_lt hc) (hci ▸ Nat.lt_irrefl c)
      · exact less_negtrans L top _ _ _ (hp c x' hxc).1 py (hp _ z hz).1
          (hinv.1 c x' _ hc hcj hxc (hpc ▸ hy)) hyz

def HeapOKn (top : Bool) (h : Array (α × V)) (n : Nat) : Prop :=
  ∀ (c : Nat) (x y : α × V), 0 < c → c < n → h[c]? = some x → h[(c - 1) / 2]? = some y → less top x.2 y.2 = false

/-- the heap property on the prefix `[0, n)` everywhere except at the edges below `i`, where the
children of `i` are compared with the parent of `i` instead -/
def DownInv (top : Bool) (h : Array (α × V)) (n i : Nat) : Prop :=
  (∀ (c : Nat) (x y : α × V), 0 < c → c < n → (c - 1) / 2 ≠ i → h[c]? = some x → h[(c - 1) / 2]? = some y →
    less top x.2 y.2 = false) ∧
  (∀ (c : Nat) (x z : α × V), 0 < i → 0 < c → c < n → (c - 1) / 2 = i → h[c]? = some x → h[(i - 1) / 2]? = some z →
    less top x.2 z.2 = false)

theorem smallerChild_min {h : Array (α × V)} {n i c : Nat} {x xj : α × V} (hp : AllP P h) (hcn : c < n)
    (hc : 0 < c) (hpc : (c - 1) / 2 = i) (hx : h[c]? = some x) (hxj : h[smallerChild top h n i]? = some xj) :
    less top x.2 xj.2 = false := by
  have hc : c = 2 * i + 1 ∨ c = 2 * i + 2 := by omega
  rcases smallerChild_cases top h n i with ⟨e, hle⟩ | ⟨e, -, b, a, hb, ha, hlt⟩
  · -- the left child was chosen
    rw [e] at hxj
    rcases hc with rfl | rfl
    · rw [hx] at hxj; cases hxj
      exact less_irrefl L top _ (hp _ x hx).1
    · rw [← heapLess_eq top _ _ (hp _ x hx).2]
      exact hle x xj hcn hx hxj
  · -- the right child was chosen: it is less than the left one
    rw [e, hb] at hxj; cases hxj
    rcases hc with rfl | rfl
    · rw [ha] at hx; cases hx
      rw [heapLess_eq top _ _ (hp _ _ hb).2] at hlt
      exact less_asymm L top _ _ (hp _ _ hb).1 (hp _ _ ha).1 hlt
    · rw [hb] at hx; cases hx
      exact less_irrefl L top _ (hp _ _ hb).1

/-- `down` (sift-down) restores the heap property on the prefix and leaves the rest alone -/
theorem heapDown_ok (n : Nat) : ∀ (fuel i : Nat) (h : Array (α × V)), n ≤ i + fuel → n ≤ h.size → AllP P h →
    DownInv top h n i →
    HeapOKn top (heapDown top h n fuel i) n ∧ AllP P (heapDown top h n fuel i) ∧
      (heapDown top h n fuel i).size = h.size ∧ (∀ k, n ≤ k → (heapDown top h n fuel i)[k]? = h[k]?) := by
  intro fuel i h hf hn hp hinv
  refine ⟨?_, hp.mono (heapDown_perm top n fuel i h).subset, heapDown_size top n fuel i h,
    heapDown_get_ge top n fuel i h⟩
  -- at a leaf there is no edge below `i`
  have leaf : ∀ (i : Nat) (h : Array (α × V)), DownInv top h n i → n ≤ 2 * i + 1 → HeapOKn top h n :=
    fun i h hinv hl c x y hc hcn => hinv.1 c x y hc hcn (by omega)
  fun_induction heapDown top h n fuel i with
  | case1 h i => exact leaf i h hinv (by omega)
  | case2 h fuel i _ hleaf => exact leaf i h hinv hleaf
  | case5 h fuel i _ hleaf j hnone =>
    -- `i` and its child are in the array
    obtain ⟨hij, hjn, -⟩ : i < j ∧ j < n ∧ (j - 1) / 2 = i := smallerChild_lt (Nat.not_le.mp hleaf)
    have hjs : j < h.size := Nat.lt_of_lt_of_le hjn hn
    exact (hnone _ _ (Array.getElem?_eq_getElem hjs) (Array.getElem?_eq_getElem (Nat.lt_trans hij hjs))).elim
  | case3 h fuel i _ hleaf j x y hy hx hl =>
    -- in place: the children of `i` are not below `j`, which is not below `i`
    rw [Bool.not_eq_true', heapLess_eq top _ _ (hp j x hx).2] at hl
    intro c x' y' hc hcn hx' hy'
    by_cases hpi : (c - 1) / 2 = i
    · rw [hpi, hy] at hy'
      cases hy'
      exact less_negtrans L top _ _ _ (hp c x' hx').1 (hp j x hx).1 (hp i y hy).1
        (smallerChild_min L top hp hcn hc hpi hx' hx) hl
    · exact hinv.1 c x' y' hc hcn hpi hx' hy'
  | case4 h fuel i _ hleaf j x y hy hx hl ih =>
    -- exchange with that child and continue there
    obtain ⟨hij, hjn, hpj⟩ : i < j ∧ j < n ∧ (j - 1) / 2 = i := smallerChild_lt (Nat.not_le.mp hleaf)
    obtain ⟨px, nx⟩ := hp j x hx
    obtain ⟨py, -⟩ := hp i y hy
    rw [Bool.not_eq_true', Bool.not_eq_false, heapLess_eq top _ _ nx] at hl
    refine ih (Nat.le_trans hf (Nat.add_lt_add_right hij fuel)) (by rw [swap_size]; exact hn)
      (hp.mono (swap_toList_perm hx hy).subset) ⟨?_, ?_⟩
    · intro c x' y' hc hcn hpc hx' hy'
      rcases swap_get_cases hx hy hx' with ⟨hcj, rfl⟩ | ⟨hci, rfl⟩ | ⟨hcj, hci, hxc⟩
      · rw [hcj, hpj, swap_get_left hx hy (Nat.ne_of_lt hij)] at hy'
        cases hy'
        exact less_asymm L top _ _ px py hl
      · -- what came up to `i` against the parent of `i`
        have hi0 : 0 < i := hci ▸ hc
        have hgp := parent_lt hi0
        rw [hci, swap_get_ne hx hy (Nat.ne_of_lt (Nat.lt_trans hgp hij)) (Nat.ne_of_lt hgp)] at hy'
        exact hinv.2 j _ y' hi0 (Nat.zero_lt_of_lt hij) hjn hpj hx hy'
      · rcases swap_get_cases hx hy hy' with ⟨hpj', -⟩ | ⟨hpi, rfl⟩ | ⟨-, hpi, hyc⟩
        · exact absurd hpj' hpc
        · exact smallerChild_min L top hp hcn hc hpi hxc hx
        · exact hinv.1 c x' y' hc hcn hpi hxc hyc
    · intro c x' z hj0 hc hcn hpc hx' hz
      have hjc : j < c := hpc ▸ parent_lt hc
      rw [hpj, swap_get_left hx hy (Nat.ne_of_lt hij)] at hz
      cases hz
      rw [swap_get_ne hx hy (Nat.ne_of_gt hjc) (Nat.ne_of_gt (Nat.lt_trans hij hjc))] at hx'
      exact hinv.1 c x' _ hc hcn (by rw [hpc]; exact Nat.ne_of_gt hij) hx' (by rw [hpc]; exact hx)

theorem root_min (h : Array (α × V)) (hp : AllP P h) (hk : HeapOK top h) :
    ∀ (k : Nat) (x r : α × V), h[k]? = some x → h[0]? = some r → less top x.2 r.2 = false := by
  intro k
  induction k using Nat.strongRecOn with
  | _ k ih =>
    intro x r hx hr
    by_cases hk0 : k = 0
    · rw [hk0, hr] at hx
      cases hx
      exact less_irrefl L top _ (hp 0 _ hr).1
    · -- not below its parent, which is not below the root
      have hk0 : 0 < k := Nat.pos_of_ne_zero hk0
      have hks : k < h.size := (Array.getElem?_eq_some_iff.mp hx).1
      -- (stated with `∃` because writing `some h[(k - 1) / 2]` sends the elaborator looking for the bound)
      obtain ⟨y, hy⟩ : ∃ y, h[(k - 1) / 2]? = some y :=
        ⟨_, Array.getElem?_eq_getElem (Nat.lt_trans (parent_lt hk0) hks)⟩
      exact less_negtrans L top _ _ _ (hp k x hx).1 (hp _ _ hy).1 (hp 0 r hr).1 (hk k x _ hk0 hx hy)
        (ih ((k - 1) / 2) (parent_lt hk0) _ r hy hr)

theorem root_min_mem {h : Array (α × V)} (hp : AllP P h) (hk : HeapOK top h) {y r : α × V} (hy : y ∈ h.toList)
    (hr : h[0]? = some r) : less top y.2 r.2 = false := by
  obtain ⟨i, hi⟩ := Array.mem_iff_getElem?.mp (Array.mem_toList_iff.mp hy)
  exact root_min L top h hp hk i y r hi hr

theorem heapPush_ok (h : Array (α × V)) (x : α × V) (hp : AllP P h) (hk : HeapOK top h) (px : P x.2)
    (nx : isNaN x.2 = false) :
    HeapOK top (heapPush top h x) ∧ AllP P (heapPush top h x) := by
  have hp' : AllP P (h.push x) := allP_iff.mpr fun y hy => by
    rw [Array.toList_push, List.mem_append, List.mem_singleton] at hy
    rcases hy with hy | rfl
    · exact allP_iff.mp hp y hy
    · exact ⟨px, nx⟩
  have hsz : (h.push x).size - 1 = h.size := by rw [Array.size_push, Nat.add_sub_cancel]
  have hlast : h.size < (h.push x).size := Array.size_push x ▸ Nat.lt_succ_self _
  -- the new last entry has no children, and no other edge has changed
  have := heapUp_ok L top (h.push x).size h.size (h.push x) hlast hlast hp' ⟨?_, ?_⟩
  · rw [← hsz] at this
    exact ⟨this.1, this.2.1⟩
  · intro c z y hc hcj hz hy
    have hcs : c < h.size + 1 := Array.size_push x ▸ (Array.getElem?_eq_some_iff.mp hz).1
    rw [Array.getElem?_push, if_neg hcj] at hz
    rw [Array.getElem?_push, if_neg (Nat.ne_of_lt (Nat.lt_of_lt_of_le (parent_lt hc) (Nat.le_of_lt_succ hcs)))] at hy
    exact hk c z y hc hz hy
  · intro c z w _ hc hpc hz _
    have hcs : c < h.size + 1 := Array.size_push x ▸ (Array.getElem?_eq_some_iff.mp hz).1
    exact absurd (hpc ▸ parent_lt hc) (Nat.not_lt.mpr (Nat.le_of_lt_succ hcs))

omit L in
theorem heapOKn_pop {h : Array (α × V)} (hk : HeapOKn top h (h.size - 1)) : HeapOK top h.pop := by
  intro c x y hc hx hy
  have hcs : c < h.size - 1 := Array.size_pop ▸ (Array.getElem?_eq_some_iff.mp hx).1
  rw [Array.getElem?_pop, if_pos hcs] at hx
  rw [Array.getElem?_pop, if_pos (Nat.lt_trans (parent_lt hc) hcs)] at hy
  exact hk c x y hc hcs hx hy

theorem heapPop_ok (h : Array (α × V)) (hs : 0 < h.size) (hp : AllP P h) (hk : HeapOK top h) :
    HeapOK top (heapPop top h) ∧ AllP P (heapPop top h) := by
  obtain ⟨a, h0⟩ : ∃ a, h[0]? = some a := ⟨_, Array.getElem?_eq_getElem hs⟩
  obtain ⟨b, hn⟩ : ∃ b, h[h.size - 1]? = some b := ⟨_, Array.getElem?_eq_getElem (Nat.sub_lt hs Nat.one_pos)⟩
  refine ⟨?_, hp.mono fun y hy => (heapPop_perm top h0).subset (List.mem_append_left _ hy)⟩
  rw [heapPop_eq top h0 hn]
  apply heapOKn_pop
  rw [heapDown_size, swap_size]
  -- after the exchange, only the edges below the root can be wrong
  refine (heapDown_ok L top (h.size - 1) (h.size - 1) 0 _ (Nat.le_add_left _ _) (by rw [swap_size]; exact Nat.sub_le _ _)
    (hp.mono (swap_toList_perm hn h0).subset) ⟨?_, ?_⟩).1
  · intro c x y hc hcn hpc hx hy
    rw [swap_get_ne hn h0 (Nat.ne_of_lt hcn) (Nat.ne_of_gt hc)] at hx
    rw [swap_get_ne hn h0 (Nat.ne_of_lt (Nat.lt_trans (parent_lt hc) hcn)) hpc] at hy
    exact hk c x y hc hx hy
  · intro c x z h00
    exact absurd h00 (Nat.lt_irrefl 0)

/-- the state of one group's selection: the heap, what was dropped so far -/
structure SelInv (top : Bool) (P : V → Prop) (k : Nat) (h : Array (α × V)) (dropped : List (α × V)) : Prop where
  heap : HeapOK top h
  allP : AllP P h
  size : h.size ≤ k
  room : h.size < k → dropped = []
  below : ∀ d ∈ dropped, ∀ y ∈ h.toList, less top y.2 d.2 = false
  dropP : ∀ d ∈ dropped, P d.2

theorem kStep_sel (k : Nat) (hk : 1 ≤ k) (h : Array (α × V)) (dropped : List (α × V)) (x : α × V)
    (px : P x.2) (nx : isNaN x.2 = false) (hinv : SelInv top P k h dropped) :
    ∃ extra, SelInv top P k (kStep top k h x) (extra ++ dropped) ∧
      ((kStep top k h x).toList ++ extra).Perm (h.toList ++ [x]) := by
  obtain ⟨e, hperm, hc⟩ := kStep_cases top k h x
  refine ⟨e, ?_, hperm⟩
  have hle := hinv.size
  rcases hc with ⟨rfl, hs, he⟩ | ⟨t, ht, hge, hc⟩
  · -- room left: nothing has been dropped yet
    obtain rfl : dropped = [] := hinv.room (by omega)
    rw [he]
    obtain ⟨a1, a2⟩ := heapPush_ok L top h x hinv.allP hinv.heap px nx
    exact ⟨a1, a2, by rw [heapPush_size]; omega, fun _ => rfl, by simp, by simp⟩
  · have heq : h.size = k := by omega
    obtain ⟨pt, nt⟩ := hinv.allP 0 t ht
    have hth : t ∈ h.toList := Array.mem_toList_iff.mpr (Array.mem_of_getElem? ht)
    have hadm : ((if top then lt t.2 x.2 else gt t.2 x.2) || isNaN t.2) = less top t.2 x.2 := by
      rw [nt, Bool.or_false]; cases top <;> rfl
    rw [hadm] at hc
    rcases hc with ⟨rfl, hadm, he⟩ | ⟨rfl, -, hadm, he⟩
    · -- rejected: nothing kept is below the root, which is not below `x`
      rw [he]
      exact ⟨hinv.heap, hinv.allP, hle, fun hlt => absurd heq (Nat.ne_of_lt hlt),
        List.forall_mem_cons.mpr ⟨fun y hy => less_negtrans L top _ _ _ (allP_iff.mp hinv.allP y hy).1 pt px
          (root_min_mem L top hinv.allP hinv.heap hy ht) hadm, hinv.below⟩,
        List.forall_mem_cons.mpr ⟨px, hinv.dropP⟩⟩
    · -- the root is replaced by `x`
      rw [he]
      have hs : 0 < h.size := (Array.getElem?_eq_some_iff.mp ht).1
      obtain ⟨b1, b2⟩ := heapPop_ok L top h hs hinv.allP hinv.heap
      obtain ⟨a1, a2⟩ := heapPush_ok L top _ x b2 b1 px nx
      have hsz : (heapPush top (heapPop top h) x).size = k := by
        have := heapPop_size top h hs
        rw [heapPush_size]; omega
      -- what is kept now is `x` or was kept before: it is not below the old root
      have hyt : ∀ y ∈ (heapPush top (heapPop top h) x).toList, less top y.2 t.2 = false := by
        intro y hy
        rcases List.mem_append.mp ((heapPush_perm top _ x).subset hy) with hy | hy
        · exact root_min_mem L top hinv.allP hinv.heap
            ((heapPop_perm top ht).subset (List.mem_append_left _ hy)) ht
        · cases List.mem_singleton.mp hy
          exact less_asymm L top _ _ pt px hadm
      exact ⟨a1, a2, by omega, fun hlt => absurd hsz (Nat.ne_of_lt hlt),
        List.forall_mem_cons.mpr ⟨hyt, fun d hd y hy => less_negtrans L top _ _ _ (allP_iff.mp a2 y hy).1 pt
          (hinv.dropP d hd) (hyt y hy) (hinv.below d hd t hth)⟩,
        List.forall_mem_cons.mpr ⟨pt, hinv.dropP⟩⟩

/-- **topk / bottomk keep the extreme samples of a group**: for a NaN-free group over a strict weak
order, no sample the bounded heap keeps is strictly less (in heap order: smaller for topk, larger
for bottomk) than a sample it dropped - for every `k ≥ 1` and every arrival order. Together with
`kSelect_length` (it keeps `min k n`) and `kSelect_perm` (kept plus dropped is the group), this is
"the k largest / smallest, ties broken arbitrarily". -/
theorem kSelect_extreme (k : Nat) (hk : 1 ≤ k) (items : List (α × V))
    (hitems : ∀ x ∈ items, P x.2 ∧ isNaN x.2 = false) :
    ∃ dropped, (kSelect top k items ++ dropped).Perm items ∧
      ∀ d ∈ dropped, ∀ y ∈ kSelect top k items, less top y.2 d.2 = false := by
  have init : SelInv top P k (#[] : Array (α × V)) [] :=
    ⟨fun c a b _ ha => by simp at ha, fun i a ha => by simp at ha, Nat.zero_le k, fun _ => rfl, by simp, by simp⟩
  obtain ⟨d, hI, hd⟩ := foldl_kept_dropped Array.toList (kStep top k) (SelInv top P k) items
    (fun h d x hx hinv => kStep_sel L top k hk h d x (hitems x hx).1 (hitems x hx).2 hinv) #[] [] init
  exact ⟨d, hd, hI.below⟩

end heap
end PromqlVerif
