/-
The reused, timestamp-tagged table of `binary/table.go` behaves like a fresh table per step,
along strictly increasing step timestamps.
-/
import PromqlVerif.Table
import PromqlVerif.Proofs.Contract
import PromqlVerif.Proofs.Folds
namespace PromqlVerif
open Val

variable {V : Type} [Val V]

def SimRes {σ τ : Type} (R : σ → τ → Prop) : Except Err σ → Except Err τ → Prop
  | .ok s, .ok t => R s t
  | .error e, .error e' => e = e'
  | _, _ => False

theorem SimRes.cases {σ τ : Type} {R : σ → τ → Prop} {a : Except Err σ} {b : Except Err τ} (h : SimRes R a b) :
    (∃ s t, a = .ok s ∧ b = .ok t ∧ R s t) ∨ ∃ e, a = .error e ∧ b = .error e :=
  match a, b, h with
  | .ok s, .ok t, h => .inl ⟨s, t, rfl, rfl, h⟩
  | .error e, .error _, h => .inr ⟨e, rfl, congrArg _ h.symm⟩

theorem foldlM_sim {α σ τ : Type} (R : σ → τ → Prop) (f : σ → α → Except Err σ) (g : τ → α → Except Err τ)
    (P : α → Prop) (hstep : ∀ s t a, P a → R s t → SimRes R (f s a) (g t a)) :
    ∀ (l : List α), (∀ a ∈ l, P a) → ∀ s t, R s t → SimRes R (l.foldlM f s) (l.foldlM g t) := by
  intro l
  induction l with
  | nil => intro _ s t h; exact h
  | cons a l ih =>
    intro hP s t h
    rw [List.foldlM_cons, List.foldlM_cons]
    rcases (hstep s t a (hP a List.mem_cons_self) h).cases with ⟨s', t', hs, ht, h'⟩ | ⟨e, hs, ht⟩
    · rw [hs, ht]
      exact ih (fun b hb => hP b (List.mem_cons_of_mem _ hb)) s' t' h'
    · rw [hs, ht]
      exact rfl

theorem outerFold_sim {σ τ : Type} (R : σ → τ → Prop) (f : σ → Nat → V → Except Err σ)
    (g : τ → Nat → V → Except Err τ) (outsOf : Nat → List Nat) (P : Nat → Prop)
    (hP : ∀ id, ∀ o ∈ outsOf id, P o)
    (hstep : ∀ s t o xv, P o → R s t → SimRes R (f s o xv) (g t o xv)) :
    ∀ (xs : IdVec V) a b, SimRes R a b →
      SimRes R (outerFold f outsOf xs a) (outerFold g outsOf xs b) := by
  intro xs a b h
  rw [outerFold_eq, outerFold_eq]
  rcases h.cases with ⟨s, t, rfl, rfl, h⟩ | ⟨e, rfl, rfl⟩
  · refine foldlM_sim R _ _ (fun p => P p.1) (fun s t p => hstep s t p.1 p.2) _ ?_ s t h
    intro p hp
    obtain ⟨x, _, ho, _⟩ := mem_slotPairs hp
    exact hP x.1 p.1 ho
  · exact rfl

theorem slot_set (t : Tbl V) (o o' : Nat) (s : Slot V) (h : o < t.length) :
    (o = o' ∧ Tbl.slot (t.set o s) o' = s) ∨ (o ≠ o' ∧ Tbl.slot (t.set o s) o' = t.slot o') :=
  getD_set_cases t o o' s _ h

omit [Val V] in
theorem slotValOf_append_same (slots : List (Nat × V)) (o : Nat) (xv : V) :
    slotValOf (slots ++ [(o, xv)]) o = some xv := by
  simp [slotValOf, List.filter_append, List.getLast?_append]

omit [Val V] in
theorem slotValOf_append_other (slots : List (Nat × V)) (o o' : Nat) (xv : V) (h : o ≠ o') :
    slotValOf (slots ++ [(o, xv)]) o' = slotValOf slots o' := by
  simp [slotValOf, List.filter_append, beq_false_of_ne h]

omit [Val V] in
theorem slotValOf_none (slots : List (Nat × V)) (o : Nat) (h : slots.any (·.1 == o) = false) :
    slotValOf slots o = none := by
  simp [slotValOf, List.filter_eq_nil_iff.mpr (List.any_eq_false.mp h)]

def TagsBelow (t : Tbl V) (ts : Int) : Prop :=
  ∀ o, (∀ a, (t.slot o).lhT = some a → a < ts) ∧ (∀ a, (t.slot o).rhT = some a → a < ts)

/-- pass 1: the table against the list of filled slots; `t0` is the table as the step found it, whose
other tags the pass leaves alone (`rh`, `lhOld`) -/
structure R1 (ts : Int) (n : Nat) (t0 t : Tbl V) (slots : List (Nat × V)) : Prop where
  len : t.length = n
  filled : ∀ o, o < n → ((t.slot o).lhT = some ts ↔ slots.any (·.1 == o) = true)
  value : ∀ o, o < n → (t.slot o).lhT = some ts → slotValOf slots o = some (t.slot o).v
  rh : ∀ o, (t.slot o).rhT = (t0.slot o).rhT
  lhOld : ∀ o, (t.slot o).lhT ≠ some ts → (t.slot o).lhT = (t0.slot o).lhT

theorem r1_set (ts : Int) (n : Nat) (t0 : Tbl V) (t : Tbl V) (slots : List (Nat × V))
    (o : Nat) (xv : V) (ho : o < n) (h : R1 ts n t0 t slots) :
    R1 ts n t0 (t.set o { t.slot o with lhT := some ts, v := xv }) (slots ++ [(o, xv)]) := by
  have hl : o < t.length := by rw [h.len]; exact ho
  refine ⟨by simp [h.len], fun o' => ?_, fun o' => ?_, fun o' => ?_, fun o' => ?_⟩ <;>
    rcases slot_set t o o' _ hl with ⟨rfl, e⟩ | ⟨he, e⟩ <;> rw [e]
  · simp
  · intro ho'
    simp only [List.any_append, List.any_cons, List.any_nil, beq_false_of_ne he, Bool.or_false]
    exact h.filled o' ho'
  · exact fun _ _ => slotValOf_append_same slots o xv
  · rw [slotValOf_append_other _ _ _ _ he]
    exact h.value o'
  · exact h.rh o
  · exact h.rh o'
  · exact fun hne => absurd rfl hne
  · exact h.lhOld o'

theorem lhs_sim (card : Card) (ts : Int) (n : Nat) (t0 : Tbl V) (t : Tbl V) (slots : List (Nat × V))
    (o : Nat) (xv : V) (ho : o < n) (h : R1 ts n t0 t slots) :
    SimRes (R1 ts n t0) (tagLhsStep card ts t o xv) (lhsStep card slots o xv) := by
  -- both sides run the same duplicate check
  have hchk : ((t.slot o).lhT == some ts) = slots.any (·.1 == o) := by
    rw [Bool.eq_iff_iff, beq_iff_eq]
    exact h.filled o ho
  rw [tagLhsStep, lhsStep, hchk]
  cases (card != .manyToOne && slots.any (·.1 == o)) with
  | true => exact rfl
  | false => exact r1_set ts n t0 t slots o xv ho h

/-- pass 2: the table and the step vector against the fresh model's `(out, seen)` -/
structure R2 (ts : Int) (n : Nat) (t1 : Tbl V) (st : Tbl V × IdVec V) (js : JState V) : Prop where
  out : st.2 = js.1
  len : st.1.length = n
  seen : ∀ o, o < n → ((st.1.slot o).rhT = some ts ↔ o ∈ js.2)
  lh : ∀ o, (st.1.slot o).lhT = (t1.slot o).lhT ∧ (st.1.slot o).v = (t1.slot o).v
  rhOld : ∀ o, (st.1.slot o).rhT ≠ some ts → (st.1.slot o).rhT = (t1.slot o).rhT

theorem r2_set (ts : Int) (n : Nat) (t1 t : Tbl V) (out out2 : IdVec V) (seen : List Nat) (o : Nat)
    (ho : o < n) (h : R2 ts n t1 (t, out) (out, seen)) (s' : Slot V) (h1 : s'.lhT = (t.slot o).lhT)
    (h2 : s'.v = (t.slot o).v) (h3 : s'.rhT = some ts) :
    R2 ts n t1 (t.set o s', out2) (out2, o :: seen) := by
  have hl : o < t.length := by have := h.len; simp only at this; omega
  refine ⟨rfl, by simp only [List.length_set]; exact h.len, fun o' => ?_, fun o' => ?_, fun o' => ?_⟩ <;>
    rcases slot_set t o o' s' hl with ⟨rfl, e⟩ | ⟨he, e⟩ <;> simp only [e]
  · simp [h3]
  · intro ho'
    rw [h.seen o' ho']
    simp [Ne.symm he]
  · rw [h1, h2]
    exact h.lh o
  · exact h.lh o'
  · exact fun hne => absurd h3 hne
  · exact h.rhOld o'

theorem tagRhsStep_skip (op : String) (bool : Bool) (card : Card) (ts : Int) (t : Tbl V) (out : IdVec V) (o : Nat)
    (xv : V) (h : (t.slot o).lhT ≠ some ts) : tagRhsStep op bool card ts (t, out) o xv = .ok (t, out) := by
  have hne : ((t.slot o).lhT != some ts) = true := by simpa using h
  simp only [tagRhsStep, hne, if_true]

theorem tagRhsStep_dup (op : String) (bool : Bool) (card : Card) (ts : Int) (t : Tbl V) (out : IdVec V) (o : Nat)
    (xv : V) (h : (t.slot o).lhT = some ts) (hs : (card != .oneToMany && (t.slot o).rhT == some ts) = true) :
    tagRhsStep op bool card ts (t, out) o xv = .error .manyToMany := by
  have hne : ((t.slot o).lhT != some ts) = false := by simp [h]
  simp only [tagRhsStep, hne, hs, Bool.false_eq_true, if_false, if_true]

theorem tagRhsStep_some (op : String) (bool : Bool) (card : Card) (ts : Int) (t : Tbl V) (out : IdVec V) (o : Nat)
    (xv : V) (h : (t.slot o).lhT = some ts) (hs : (card != .oneToMany && (t.slot o).rhT == some ts) = false) :
    tagRhsStep op bool card ts (t, out) o xv
      = .ok (t.set o { t.slot o with rhT := some ts }, out ++ (emit op bool o (t.slot o).v xv).toList) := by
  have hne : ((t.slot o).lhT != some ts) = false := by simp [h]
  simp only [tagRhsStep, hne, hs, Bool.false_eq_true, if_false, emit]
  cases bool with
  | true => rfl
  | false => cases (elemBinop op (t.slot o).v xv).2 <;> simp

theorem rhs_sim (op : String) (bool : Bool) (card : Card) (ts : Int) (n : Nat) (t0 t1 : Tbl V)
    (slots : List (Nat × V)) (h1 : R1 ts n t0 t1 slots) (st : Tbl V × IdVec V) (js : JState V)
    (o : Nat) (xv : V) (ho : o < n) (h : R2 ts n t1 st js) :
    SimRes (R2 ts n t1) (tagRhsStep op bool card ts st o xv) (vbStep op bool card (slotValOf slots) js o xv) := by
  obtain ⟨t, out⟩ := st
  obtain ⟨out', seen⟩ := js
  cases (h.out : out = out')
  have hlh : (t.slot o).lhT = (t1.slot o).lhT := (h.lh o).1
  by_cases hc : (t1.slot o).lhT = some ts
  · -- the slot was filled at this step: both sides run the same duplicate check
    have hsv : slotValOf slots o = some (t.slot o).v := by rw [(h.lh o).2]; exact h1.value o ho hc
    have hchk : ((t.slot o).rhT == some ts) = seen.contains o := by
      have := h.seen o ho
      simp only at this
      rw [Bool.eq_iff_iff, beq_iff_eq, this, List.contains_iff_mem]
    cases hs : (card != .oneToMany && seen.contains o) with
    | true =>
      rw [tagRhsStep_dup _ _ _ _ _ _ _ _ (hlh.trans hc) (by rw [hchk]; exact hs), vbStep_dup _ _ _ _ _ _ _ _ _ hsv hs]
      exact rfl
    | false =>
      rw [tagRhsStep_some _ _ _ _ _ _ _ _ (hlh.trans hc) (by rw [hchk]; exact hs), vbStep_some _ _ _ _ _ _ _ _ _ hsv hs]
      exact r2_set ts n t1 t out _ seen o ho h _ rfl rfl rfl
  · have ha : slots.any (·.1 == o) = false := by
      cases hh : slots.any (·.1 == o) with
      | false => rfl
      | true => exact absurd ((h1.filled o ho).mpr hh) hc
    rw [tagRhsStep_skip _ _ _ _ _ _ _ _ (by rw [hlh]; exact hc), vbStep_none _ _ _ _ _ _ _ (slotValOf_none slots o ha)]
    exact h

/-- every slot the join tables mention exists in the table -/
def InRange (card : Card) (j : Join) (n : Nat) : Prop :=
  (∀ id, ∀ o ∈ lhsOutsOf card j id, o < n) ∧ (∀ id, ∀ o ∈ rhsOutsOf card j id, o < n)

theorem tagsBelow_mono (t : Tbl V) (a b : Int) (h : a ≤ b) (hb : TagsBelow t a) : TagsBelow t b :=
  fun o => ⟨fun x hx => by have := (hb o).1 x hx; omega, fun x hx => by have := (hb o).2 x hx; omega⟩

theorem tagsBelow_new (n : Nat) (ts : Int) : TagsBelow (Tbl.new n : Tbl V) ts := by
  intro o
  have : (Tbl.slot (Tbl.new n : Tbl V) o).lhT = none ∧ (Tbl.slot (Tbl.new n : Tbl V) o).rhT = none := by
    unfold Tbl.slot Tbl.new
    rw [List.getD_eq_getElem?_getD]
    by_cases h : o < n <;> simp [h]
  constructor
  · intro a ha; rw [this.1] at ha; cases ha
  · intro a ha; rw [this.2] at ha; cases ha

theorem tag_exec_eq (op : String) (bool : Bool) (card : Card) (j : Join) (t : Tbl V) (ts : Int)
    (lhs rhs : IdVec V) (n : Nat) (hlen : t.length = n) (hr : InRange card j n) (hb : TagsBelow t ts) :
    SimRes (fun (st : Tbl V × IdVec V) out => st.2 = out ∧ st.1.length = n ∧ TagsBelow st.1 (ts + 1))
      (tagExec op bool card j t ts lhs rhs) (engVectorBinop op bool card j lhs rhs) := by
  -- no slot carries the tag of this step yet
  have hl0 : ∀ o, (t.slot o).lhT ≠ some ts := fun o h => Int.lt_irrefl _ ((hb o).1 ts h)
  have hr0 : ∀ o, (t.slot o).rhT ≠ some ts := fun o h => Int.lt_irrefl _ ((hb o).2 ts h)
  have init1 : R1 ts n t t [] :=
    ⟨hlen, fun o _ => ⟨fun h => absurd h (hl0 o), fun h => by simp at h⟩, fun o _ h => absurd h (hl0 o),
      fun _ => rfl, fun _ _ => rfl⟩
  have s1 := outerFold_sim (R1 ts n t) (tagLhsStep card ts) (lhsStep card) (lhsOutsOf card j) (fun o => o < n)
    hr.1 (fun s sl o xv ho h => lhs_sim card ts n t s sl o xv ho h) lhs (.ok t) (.ok []) init1
  unfold tagExec engVectorBinop lhsPass
  rcases s1.cases with ⟨t1, sl, h1, h1', r1⟩ | ⟨e, h1, h1'⟩
  · rw [h1, h1']
    have init2 : R2 ts n t1 (t1, []) ([], []) :=
      ⟨rfl, r1.len, fun o _ => ⟨fun h => absurd (r1.rh o ▸ h) (hr0 o), nofun⟩, fun _ => ⟨rfl, rfl⟩, fun _ _ => rfl⟩
    have s2 := outerFold_sim (R2 ts n t1) (tagRhsStep op bool card ts) (vbStep op bool card (slotValOf sl))
      (rhsOutsOf card j) (fun o => o < n) hr.2
      (fun st js o xv ho h => rhs_sim op bool card ts n t t1 sl r1 st js o xv ho h) rhs
      (.ok (t1, [])) (.ok ([], [])) init2
    rcases s2.cases with ⟨st, js, h2, h2', r2⟩ | ⟨e, h2, h2'⟩
    · simp only [h2, h2']
      refine ⟨r2.out, r2.len, fun o => ⟨fun a ha => ?_, fun a ha => ?_⟩⟩
      · rw [(r2.lh o).1] at ha
        by_cases hc : (t1.slot o).lhT = some ts
        · rw [hc] at ha; cases ha; omega
        · rw [r1.lhOld o hc] at ha
          have := (hb o).1 a ha; omega
      · by_cases hc : (st.1.slot o).rhT = some ts
        · rw [hc] at ha; cases ha; omega
        · rw [r2.rhOld o hc, r1.rh o] at ha
          have := (hb o).2 a ha; omega
    · simp only [h2, h2']
      exact rfl
  · rw [h1, h1']
    exact rfl

/-- the tables of the static join only mention slots that exist -/
theorem inRange_of_jok (card : Card) (j : Join) (hj : JOk j) : InRange card j j.outputs.length :=
  ⟨fun _ _ h => hj.lhsOutsOf_lt card h, fun _ _ h => hj.rhsOutsOf_lt card h⟩

abbrev freshRun (op : String) (bool : Bool) (card : Card) (j : Join) :
    List (Int × IdVec V × IdVec V) → List (Except Err (IdVec V)) := freshRunD op bool card j

/-- **the reused table along a query**: for strictly increasing step timestamps (a range query's
steps; one step for an instant query), starting from `newTable`, the operator's step vectors and
its first error are those of the per-step model with a fresh table -/
theorem tag_run_eq (op : String) (bool : Bool) (card : Card) (j : Join) (n : Nat) (hr : InRange card j n)
    (steps : List (Int × IdVec V × IdVec V)) (hmono : (steps.map (·.1)).Pairwise (· < ·)) :
    tagRun op bool card j (Tbl.new n) steps = freshRun op bool card j steps := by
  have key : ∀ (steps : List (Int × IdVec V × IdVec V)) (t : Tbl V), t.length = n →
      (∀ s ∈ steps, TagsBelow t s.1) → (steps.map (·.1)).Pairwise (· < ·) →
      tagRun op bool card j t steps = freshRun op bool card j steps := by
    intro steps
    induction steps with
    | nil => intro _ _ _ _; rfl
    | cons s rest ih =>
      intro t hlen hb hm
      obtain ⟨ts, lhs, rhs⟩ := s
      simp only [List.map_cons, List.pairwise_cons] at hm
      simp only [tagRun, freshRun, freshRunD]
      rcases (tag_exec_eq op bool card j t ts lhs rhs n hlen hr (hb _ List.mem_cons_self)).cases with
        ⟨⟨t', out⟩, _, h1, h2, rfl, hl', hb'⟩ | ⟨e, h1, h2⟩
      · rw [h1, h2]
        refine congrArg _ (ih t' hl' (fun s' hs' => ?_) hm.2)
        have : ts < s'.1 := hm.1 s'.1 (List.mem_map_of_mem hs')
        exact tagsBelow_mono t' (ts + 1) s'.1 (by omega) hb'
      · rw [h1, h2]
  exact key steps (Tbl.new n) (by simp [Tbl.new]) (fun s _ => tagsBelow_new n s.1) hmono

end PromqlVerif
