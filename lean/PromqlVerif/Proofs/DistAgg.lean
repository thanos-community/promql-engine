/-
The aggregation push-down of distributed execution, at the level of the reference aggregation:
aggregating every partition's samples and re-aggregating the partial results with the central
operator is aggregating the union, for every grouping, any number of partitions (empty ones,
groups split across partitions) - whenever the reduction can be re-reduced (`Rered`).
-/
import PromqlVerif.Proofs.Agg
namespace PromqlVerif
open Val

variable {V : Type} [Val V]

/-- the reducing branch of `aggregate`, with the group's labels being its key -/
def aggR (key : Labels → Labels) (R : List V → V) (X : Vec V) : Vec V :=
  (dedup (X.map fun x => key x.1)).map fun k => (k, R ((X.filter fun x => key x.1 == k).map (·.2)))

theorem aggregate_eq_aggR (op : String) (w : Bool) (g : List String) (p : V) (X : Vec V)
    (hop : (op == "topk" || op == "bottomk") = false) :
    aggregate op w g p X = .ok (aggR (groupKey w g) (aggReduce op p) X) := by
  rw [aggregate_eq op w g p X hop]
  unfold aggR groupBy
  rw [List.map_map]
  rfl

/-- a reduction `R` can be re-reduced by `R'`: over any non-empty partitions of a group -/
def Rered (R R' : List V → V) : Prop :=
  ∀ (l0 : List V) (ls : List (List V)), l0 ≠ [] → (∀ l ∈ ls, l ≠ []) →
    R (l0 ++ ls.flatten) = R' (R l0 :: ls.map R)

section core
variable (key : Labels → Labels) (hidem : ∀ ls, key (key ls) = key ls)

/-- the members of group `k` in a partition -/
def memOf (k : Labels) (P : Vec V) : List V := (P.filter fun x => key x.1 == k).map (·.2)

omit hidem [Val V] in
theorem memOf_flatten (k : Labels) (parts : List (Vec V)) :
    memOf key k parts.flatten = (parts.map (memOf key k)).flatten := by
  unfold memOf
  rw [List.filter_flatten, List.map_flatten, List.map_map]
  rfl

omit hidem [Val V] in
theorem mem_keys_iff (k : Labels) (P : Vec V) :
    k ∈ dedup (P.map fun x => key x.1) ↔ memOf key k P ≠ [] := by
  rw [mem_dedup_map_iff (fun x : Labels × V => key x.1), memOf, Ne, Ne, List.map_eq_nil_iff]

omit hidem [Val V] in
theorem aggR_eq (R : List V → V) (X : Vec V) :
    aggR key R X = (dedup (X.map fun x => key x.1)).map fun k => (k, R (memOf key k X)) := rfl

include hidem in
omit [Val V] in
theorem key_of_mem_keys (P : Vec V) (k : Labels) (hk : k ∈ dedup (P.map fun x => key x.1)) : key k = k := by
  rw [mem_dedup, List.mem_map] at hk
  obtain ⟨x, _, rfl⟩ := hk
  exact hidem _

include hidem in
omit [Val V] in
/-- what a partition's partial result contributes to group `k`: its reduction, if it has members.
The keys of the partial result are duplicate-free, so at most one of its entries is in group `k`. -/
theorem partial_members (R : List V → V) (k : Labels) (P : Vec V) :
    memOf key k (aggR key R P) = if memOf key k P = [] then [] else [R (memOf key k P)] := by
  have hfilter : (dedup (P.map fun x => key x.1)).filter (fun k' => key k' == k)
      = if memOf key k P = [] then [] else [k] := by
    rw [List.filter_congr (q := (· == k)) (fun k' hk' => by rw [key_of_mem_keys key hidem P k' hk']),
      List.filter_beq, (nodup_dedup _).count]
    simp only [mem_keys_iff, ne_eq, ite_not]
    split <;> rfl
  rw [aggR_eq, memOf, List.filter_map]
  simp only [Function.comp_def, hfilter]
  split <;> rfl

include hidem in
omit [Val V] in
theorem dist_members (R : List V → V) (k : Labels) (parts : List (Vec V)) :
    memOf key k (parts.map (aggR key R)).flatten
      = ((parts.map (memOf key k)).filter fun l => !l.isEmpty).map R := by
  rw [memOf_flatten]
  induction parts with
  | nil => rfl
  | cons P ps ih =>
    simp only [List.map_cons, List.flatten_cons, List.filter_cons]
    rw [ih, partial_members key hidem R k P]
    cases hP : memOf key k P with
    | nil => simp
    | cons a as => simp

omit hidem [Val V] in
theorem Rered.flatten {R R' : List V → V} (hR : Rered R R') (L : List (List V)) (hne : L.flatten ≠ []) :
    R' ((L.filter fun l => !l.isEmpty).map R) = R L.flatten := by
  rw [← List.flatten_filter_not_isEmpty] at hne ⊢
  have hLne : ∀ l ∈ L.filter fun l => !l.isEmpty, l ≠ [] := by
    intro l hl he
    subst he
    simp at hl
  generalize L.filter (fun l => !l.isEmpty) = L' at hne hLne
  cases L' with
  | nil => exact absurd rfl hne
  | cons l0 ls =>
    exact (hR l0 ls (hLne l0 List.mem_cons_self) (fun l hl => hLne l (List.mem_cons_of_mem _ hl))).symm

include hidem in
omit [Val V] in
theorem partial_keys (R : List V → V) (parts : List (Vec V)) :
    dedup ((parts.map (aggR key R)).flatten.map fun x => key x.1) = dedup (parts.flatten.map fun x => key x.1) := by
  have h1 : (parts.map (aggR key R)).map (List.map fun x => key x.1)
      = (parts.map (List.map fun x => key x.1)).map dedup := by
    rw [List.map_map, List.map_map]
    apply List.map_congr_left
    intro P _
    simp only [Function.comp_def, aggR_eq, List.map_map]
    conv => rhs; rw [← List.map_id (dedup (P.map fun x => key x.1))]
    exact List.map_congr_left (key_of_mem_keys key hidem P)
  rw [List.map_flatten, h1, dedup_flatten_dedup, List.map_flatten]

include hidem in
/-- **aggregating the partitions and re-aggregating the partial results is aggregating the
union, group for group in the same order** -/
theorem aggR_pushdown_eq (R R' : List V → V) (hR : Rered R R') (parts : List (Vec V)) :
    aggR key R' (parts.map (aggR key R)).flatten = aggR key R parts.flatten := by
  rw [aggR_eq, aggR_eq, partial_keys key hidem R parts]
  apply List.map_congr_left
  intro k hk
  have hne := (mem_keys_iff key k parts.flatten).mp hk
  rw [memOf_flatten] at hne
  rw [dist_members key hidem R k parts, memOf_flatten, hR.flatten _ hne]

end core

end PromqlVerif
