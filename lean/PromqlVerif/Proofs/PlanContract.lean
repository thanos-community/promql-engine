/-
The stream contract, for every operator of every plan of natively supported, well-typed
expressions (C18), and with it, under `LHyp`, well-formed labels on every operator's series (C19):
one induction over the typing derivation, carrying `PC`.
-/
import PromqlVerif.Proofs.EngInd
import PromqlVerif.Proofs.LabelsWf
namespace PromqlVerif
open Val

variable {V : Type} [Val V]

/-- well-typed expressions over the natively supported constructs, indexed by "is scalar-typed";
`P` is what is asked of the matching of a vector-vector operator (nothing for the ID half, `LHyp`
asks for no include labels) -/
inductive WT (P : Matching → Prop) : Bool → Expr V → Prop
  | num (v : V) : WT P true (.num v)
  | time : WT P true (.call "time" [])
  | pi : WT P true (.call "pi" [])
  | vsel (s : VSel) : WT P false (.vsel s)
  | rangefn (fn : String) (s : VSel) (r : Int)
      (h : (engineFuncs.contains fn && rangeFnNames.contains fn) = true) : WT P false (.call fn [.msel s r])
  | neg (b : Bool) (a : Expr V) : WT P b a → WT P b (.neg a)
  | pos (b : Bool) (a : Expr V) : WT P b a → WT P b (.pos a)
  | paren (b : Bool) (a : Expr V) : WT P b a → WT P b (.paren a)
  | stepInvNum (v : V) : WT P true (.stepInv (.num v))
  | stepInv (b : Bool) (a : Expr V) (hn : ∀ v, a ≠ .num v) : WT P b a → WT P b (.stepInv a)
  | simple (fn : String) (a : Expr V) (h : simpleFns.contains fn = true) : WT P false a → WT P false (.call fn [a])
  | timestamp (a : Expr V) : WT P false a → WT P false (.call "timestamp" [a])
  | scalar (a : Expr V) : WT P false a → WT P true (.call "scalar" [a])
  | vector (a : Expr V) : WT P true a → WT P false (.call "vector" [a])
  | clampMin (a lo : Expr V) : WT P false a → WT P true lo → WT P false (.call "clamp_min" [a, lo])
  | clampMax (a hi : Expr V) : WT P false a → WT P true hi → WT P false (.call "clamp_max" [a, hi])
  | clamp (a lo hi : Expr V) : WT P false a → WT P true lo → WT P true hi → WT P false (.call "clamp" [a, lo, hi])
  | hist (q a : Expr V) : WT P true q → WT P false a → WT P false (.call "histogram_quantile" [q, a])
  | agg (op : String) (w : Bool) (g : List String) (a : Expr V) : WT P false a → WT P false (.agg op w g a)
  | aggP (op : String) (w : Bool) (g : List String) (p a : Expr V) : WT P true p → WT P false a →
      WT P false (.aggP op w g p a)
  | bin (op : String) (bl : Bool) (m : Matching) (b1 b2 : Bool) (l r : Expr V)
      (hm : b1 = false → b2 = false → P m) : WT P b1 l → WT P b2 r → WT P (b1 && b2) (.bin op bl m l r)

omit [Val V] in
theorem wt_isScalar {P : Matching → Prop} (b : Bool) (e : Expr V) (h : WT P b e) : e.isScalar = b := by
  induction h with
  | rangefn fn s r h => exact scalarFns_not_range fn (Bool.and_eq_true_iff.mp h).2
  | simple fn a h _ _ => exact scalarFns_not_simple fn h
  | neg b a _ ih | pos b a _ ih | paren b a _ ih | stepInv b a _ _ ih => exact ih
  | bin op bl m b1 b2 l r _ _ _ ih1 ih2 => rw [Expr.isScalar, ih1, ih2]
  | _ => rfl

omit [Val V] in
theorem wt_isMsel {P : Matching → Prop} {b : Bool} {a : Expr V} (h : WT P b a) : isMsel a = false := by
  cases h <;> rfl

/-- the hypotheses of the label half: vector-vector operators have no include labels, the stored
label sets are well-formed -/
def LHyp (P : Matching → Prop) (c : Ctx V) : Prop :=
  (∀ m, P m → m.incl = []) ∧ ∀ sr ∈ c.st, Labels.wf sr.labels = true

/-- what the induction carries. The middle conjunct is there for `vector(s)` alone, which puts the one
sample of its scalar-typed operand under the series list `[[]]` -/
def PC (P : Matching → Prop) (c : Ctx V) (b : Bool) (o : OpSem V) : Prop :=
  Contract o ∧ (b = true → o.series.length = 1) ∧ (LHyp P c → LabelsOk o)

section
variable {P : Matching → Prop} {c : Ctx V}

omit [Val V] in
theorem pc_const (f : Int → V) : PC P c true (constOp f) :=
  ⟨contract_const f, fun _ => rfl, fun _ => labelsOk_unit _⟩

theorem pc_selector (s : VSel) (ts : Bool) : PC P c false (engSelector c s ts) :=
  ⟨contract_selector c s ts, nofun, fun hy => labelsOk_selector c hy.2 s ts⟩

omit [Val V] in
theorem pc_pin {b : Bool} {o : OpSem V} (h : PC P c b o) : PC P c b { o with step := fun _ => o.step c.start } :=
  ⟨fun _ xs hx => h.1 c.start xs hx, h.2.1, h.2.2⟩

omit [Val V] in
theorem pc_inplace {b : Bool} {next : OpSem V} (h : PC P c b next) {f : Labels → Labels}
    (hf : ∀ ls, Labels.wf ls = true → Labels.wf (f ls) = true) {step : Int → Except Err (IdVec V)}
    (hs : ∀ t xs, step t = .ok xs → ∃ ys, next.step t = .ok ys ∧ (xs.map (·.1)).Sublist (ys.map (·.1))) :
    PC P c b { series := next.series.map f, step := step } :=
  ⟨h.1.of_sublist (List.length_map _) hs, fun hb => (List.length_map _).trans (h.2.1 hb),
    fun hy => labelsOk_map next f step hf (h.2.2 hy)⟩

omit [Val V] in
theorem pc_pointwise {b : Bool} {next : OpSem V} (h : PC P c b next) (g : Int → Nat × V → V) :
    PC P c b { series := next.series.map Labels.dropName
               step := fun t => (next.step t).map fun xs => xs.map fun x => (x.1, g t x) } := by
  refine pc_inplace h dropName_wf fun t xs hx => ?_
  obtain ⟨ys, hys, rfl⟩ := map_eq_ok.mp hx
  exact ⟨ys, hys, ids_map_sublist ys _⟩

omit [Val V] in
theorem pc_filter {b : Bool} {next : OpSem V} (h : PC P c b next) {f : Labels → Labels}
    (hf : ∀ ls, Labels.wf ls = true → Labels.wf (f ls) = true) {α : Type} (param : Int → Except Err α)
    (g : α → Nat × V → Option V) :
    PC P c b { series := next.series.map f
               step := fun t => do
                 let xs ← next.step t
                 let p ← param t
                 pure (xs.filterMap fun x => (g p x).map fun v => (x.1, v)) } := by
  refine pc_inplace h hf fun t xs hx => ?_
  simp only [bind_eq_ok, pure_eq_ok] at hx
  obtain ⟨ys, hys, p, -, rfl⟩ := hx
  exact ⟨ys, hys, fst_filterMap_sublist (·.1) _ (fun _ _ => fst_of_map_eq_some) ys⟩

theorem tsSel_pc (a : Expr V) (o : OpSem V) (h : engTimestampSel c a = some o) : PC P c false o := by
  fun_induction engTimestampSel c a generalizing o with
  | case1 e ih => exact ih o h
  | case2 e ih =>
    obtain ⟨o', he, rfl⟩ := Option.map_eq_some_iff.mp h
    exact pc_pin (ih o' he)
  | case3 s => cases h; exact pc_selector s true
  | case4 => cases h

end

theorem tsSel_contract (c : Ctx V) : ∀ (a : Expr V) (o : OpSem V), engTimestampSel c a = some o → Contract o :=
  fun a o h => (tsSel_pc (P := fun _ => True) a o h).1

/-- **C18, for every plan**: every operator built for a well-typed expression of natively supported
constructs - and hence every operator of its plan, since every sub-expression is one - emits, at
every step, sample IDs that index its series list and are pairwise distinct; a scalar-typed
operator has exactly one series; under `LHyp` the label sets of its series are well-formed (C19).
For every storage, window, lookback and matcher table. -/
theorem plan_contract {P : Matching → Prop} (c : Ctx V) (b : Bool) (e : Expr V) (h : WT P b e) :
    ∀ o, engOp c e = .ok o → PC P c b o := by
  suffices h : Post (fun _ => True) (PC P c b) (engOp c e) from fun _ => h.of_ok
  induction h with
  | num | time | pi | stepInvNum => rw [engOp]; exact pc_const _
  | vsel s => rw [engOp]; exact pc_selector s false
  | rangefn fn s r hfn =>
    rw [engOp, if_pos hfn]
    exact ⟨contract_rangefn c fn s r, nofun, fun hy => labelsOk_rangefn c hy.2 fn s r⟩
  | pos b a _ ih | paren b a _ ih => rw [engOp]; exact ih
  | stepInv b a _ _ ih => rw [engOp_stepInv]; exact ih.bind fun _ ha => pc_pin ha
  | neg b a _ ih => rw [engOp]; exact ih.bind fun _ ha => pc_pointwise ha _
  | simple fn a hfn hfa ih =>
    rw [engOp_simple hfn (wt_isMsel hfa)]
    exact ih.bind fun _ ha => pc_pointwise ha _
  | timestamp a hfa ih =>
    rw [engOp_timestamp (wt_isMsel hfa)]
    split
    · rename_i o' hts
      exact pc_inplace (tsSel_pc a o' hts) dropName_wf fun t xs hx => ⟨xs, hx, .refl _⟩
    · exact ih.bind fun _ ha => pc_pointwise ha _
  | scalar a hfa ih =>
    rw [engOp_scalar (wt_isMsel hfa)]
    refine ih.bind fun _ _ => ⟨fun t xs hx => ?_, fun _ => rfl, fun _ => labelsOk_unit _⟩
    obtain ⟨ys, -, rfl⟩ := map_eq_ok.mp hx
    split <;> exact idsOk_single _ Nat.one_pos _
  | vector a hfa ih =>
    rw [engOp_vector (wt_isMsel hfa)]
    exact ih.bind fun _ ⟨h1, h2, _⟩ =>
      ⟨fun t xs hx => (h2 rfl ▸ h1 t xs hx : IdsOk 1 xs), nofun, fun _ => labelsOk_unit _⟩
  | clampMin a lo _ _ iha ihlo | clampMax a lo _ _ iha ihlo =>
    rw [engOp]
    refine iha.bind fun _ ha => ihlo.bind fun _ _ => pc_inplace ha dropName_wf fun t xs hx => ?_
    simp only [bind_eq_ok, pure_eq_ok] at hx
    obtain ⟨ys, hys, lo, -, rfl⟩ := hx
    exact ⟨ys, hys, ids_map_sublist ys _⟩
  | clamp a lo hi _ _ _ iha ihlo ihhi =>
    rw [engOp]
    refine iha.bind fun _ ha => ihlo.bind fun _ _ => ihhi.bind fun _ _ =>
      pc_inplace ha dropName_wf fun t xs hx => ?_
    simp only [bind_eq_ok, pure_eq_ok] at hx
    obtain ⟨ys, hys, lo, -, hi, -, rfl⟩ := hx
    refine ⟨ys, hys, ?_⟩
    split
    · exact List.nil_sublist _
    · exact ids_map_sublist ys _
  | hist q a _ _ ihq iha =>
    rw [engOp]
    exact ihq.bind fun oq _ => iha.bind fun oa ha =>
      ⟨contract_histogram c oq oa, nofun, fun hy => labelsOk_histogram c oq oa (ha.2.2 hy)⟩
  | agg op w g a _ ih =>
    rw [engOp]
    exact ih.bind fun oa ha => .ite trivial (.ite trivial
      ⟨contract_aggregate op w g none oa, nofun, fun hy => labelsOk_aggregate op w g none oa (ha.2.2 hy)⟩)
  | aggP op w g p a _ _ ihp iha =>
    rw [engOp]
    exact iha.bind fun oa ha => ihp.bind fun po _ => .ite
      ⟨contract_kaggregate _ w g po oa ha.1, nofun, fun hy => labelsOk_kaggregate _ w g po oa (ha.2.2 hy)⟩
      (.ite trivial
        ⟨contract_aggregate op w g (some po) oa, nofun, fun hy => labelsOk_aggregate op w g (some po) oa (ha.2.2 hy)⟩)
  | bin op bl m b1 b2 l r hm hl hr ihl ihr =>
    rw [engOp_bin, wt_isScalar _ _ hl, wt_isScalar _ _ hr]
    refine ihl.bind fun lo hlo => ihr.bind fun ro hro => .ite trivial ?_
    have hf : ∀ ls, Labels.wf ls = true → Labels.wf (if dropsName op || bl then ls.dropName else ls) = true :=
      fun ls h => wf_ite (dropName_wf ls h) h
    cases b1 <;> cases b2
    · -- two vectors: the static join and the per-step table
      refine ⟨fun t xs hx => ?_, nofun, fun hy => engJoin_outputs_wf m (hy.1 m (hm rfl rfl)) _ _ _ ?_⟩
      · simp only [binOp, vvOp, bind_eq_ok] at hx
        obtain ⟨as, -, bs, hbs, hx⟩ := hx
        exact idsOk_vbinop op bl m.card _ (engJoin_ok ..) as bs xs (hro.1 t bs hbs).2 hx
      · split
        · exact hro.2.2 hy
        · exact hlo.2.2 hy
    -- a scalar operand: the samples of the other side are kept or dropped in place
    · exact pc_filter hlo hf _ fun s x => vsFun op bl false s x.2
    · exact pc_filter hro hf _ fun s x => vsFun op bl true s x.2
    · refine pc_inplace hlo hf fun t xs hx => ?_
      simp only [bind_eq_ok, pure_eq_ok] at hx
      obtain ⟨ys, hys, s, -, rfl⟩ := hx
      exact ⟨ys, hys, ids_map_sublist ys _⟩

end PromqlVerif
