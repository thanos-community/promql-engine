/-
Theorem B on a typed fragment: the engine's operators, read through their series lists, compute
the reference value at every step - by induction over the fragment. That sample IDs index the
series list is not part of the induction: the fragment is well-typed (`frag_wt`), so it comes with
the plan contract (`frag_ids`).

The induction is run on `VecOk R` / `ScalOk`: plan construction succeeds and, at every step, what
the operator emits is `R`-related to the reference vector (is the reference scalar). The lemmas
that take a vector-typed node from its children (`vecOk_stepInv/neg/simple/clamp*/bin_vs`) are
stated for any `R` that survives `List.filterMap` (`FilterMapClosed`), so the same lemmas serve
equality here and permutation in `Proofs/TheoremP.lean`; the scalar-typed nodes, `scalar`, `vector`
and `timestamp` of a selector are stated for equality.
-/
import PromqlVerif.Proofs.PlanContract
import PromqlVerif.Proofs.EvalEqns
namespace PromqlVerif
open Val

variable {V : Type} [Val V]

/-- the fragment, indexed by "is scalar-typed" -/
inductive Frag : Bool → Expr V → Prop
  | num (v : V) : Frag true (.num v)
  | time : Frag true (.call "time" [])
  | pi : Frag true (.call "pi" [])
  | vsel (s : VSel) : Frag false (.vsel s)
  | rangefn (fn : String) (s : VSel) (r : Int)
      (h : (engineFuncs.contains fn && rangeFnNames.contains fn) = true) : Frag false (.call fn [.msel s r])
  | neg (b : Bool) (a : Expr V) : Frag b a → Frag b (.neg a)
  | pos (b : Bool) (a : Expr V) : Frag b a → Frag b (.pos a)
  | paren (b : Bool) (a : Expr V) : Frag b a → Frag b (.paren a)
  | simple (fn : String) (a : Expr V) (h : simpleFns.contains fn = true) : Frag false a → Frag false (.call fn [a])
  | scalar (a : Expr V) : Frag false a → Frag true (.call "scalar" [a])
  | vector (a : Expr V) : Frag true a → Frag false (.call "vector" [a])
  | clampMin (a lo : Expr V) : Frag false a → Frag true lo → Frag false (.call "clamp_min" [a, lo])
  | clampMax (a hi : Expr V) : Frag false a → Frag true hi → Frag false (.call "clamp_max" [a, hi])
  | clamp (a lo hi : Expr V) : Frag false a → Frag true lo → Frag true hi → Frag false (.call "clamp" [a, lo, hi])
  | stepInvNum (v : V) : Frag true (.stepInv (.num v))
  | binVS (op : String) (bl : Bool) (m : Matching) (a sc : Expr V) (hop : engineBinOps.contains op = true) :
      Frag false a → Frag true sc → Frag false (.bin op bl m a sc)
  | binSV (op : String) (bl : Bool) (m : Matching) (sc a : Expr V) (hop : engineBinOps.contains op = true) :
      Frag true sc → Frag false a → Frag false (.bin op bl m sc a)
  | binSS (op : String) (bl : Bool) (m : Matching) (x y : Expr V) (hop : engineBinOps.contains op = true) :
      Frag true x → Frag true y → Frag true (.bin op bl m x y)
  | stepInv (b : Bool) (a : Expr V) (hn : ∀ v, a ≠ .num v) : Frag b a → Frag b (.stepInv a)

/-- what Theorem B (`frag_inv`) says of the operator `o` built for `e`; the induction (`frag_ok`)
carries `FragOk` -/
def Inv (c : Ctx V) (b : Bool) (e : Expr V) (o : OpSem V) : Prop :=
  (b = true → o.series = [[]]) ∧
  ∀ t, ∃ xs, o.step t = .ok xs ∧ (∀ x ∈ xs, x.1 < o.series.length) ∧
    (if b then ∃ s, xs = [(0, s)] ∧ eval c t e = .ok (.scal s)
     else eval c t e = .ok (.vec (denote o.series xs)))

omit [Val V] in
theorem frag_wt {P : Matching → Prop} (b : Bool) (e : Expr V) (h : Frag b e) : WT P b e := by
  induction h with
  | num v => exact .num v
  | time => exact .time
  | pi => exact .pi
  | vsel s => exact .vsel s
  | rangefn fn s r hfn => exact .rangefn fn s r hfn
  | neg b a _ ih => exact .neg b a ih
  | pos b a _ ih => exact .pos b a ih
  | paren b a _ ih => exact .paren b a ih
  | simple fn a hfn _ ih => exact .simple fn a hfn ih
  | scalar a _ ih => exact .scalar a ih
  | vector a _ ih => exact .vector a ih
  | clampMin a lo _ _ iha ihlo => exact .clampMin a lo iha ihlo
  | clampMax a hi _ _ iha ihhi => exact .clampMax a hi iha ihhi
  | clamp a lo hi _ _ _ iha ihlo ihhi => exact .clamp a lo hi iha ihlo ihhi
  | stepInvNum v => exact .stepInvNum v
  | binVS op bl m a sc _ _ _ iha ihs => exact .bin op bl m false true a sc nofun iha ihs
  | binSV op bl m sc a _ _ _ ihs iha => exact .bin op bl m true false sc a nofun ihs iha
  | binSS op bl m x y _ _ _ ihx ihy => exact .bin op bl m true true x y nofun ihx ihy
  | stepInv b a hn _ ih => exact .stepInv b a hn ih

omit [Val V] in
theorem frag_isScalar (b : Bool) (e : Expr V) (h : Frag b e) : e.isScalar = b :=
  wt_isScalar (P := fun _ => True) b e (frag_wt b e h)

theorem frag_ids {c : Ctx V} {b : Bool} {e : Expr V} (h : Frag b e) {o : OpSem V} (ho : engOp c e = .ok o) {t : Int}
    {xs : IdVec V} (hxs : o.step t = .ok xs) : ∀ x ∈ xs, x.1 < o.series.length :=
  ((plan_contract (P := fun _ => True) c b e (frag_wt b e h) o ho).1 t xs hxs).1

def AgreesAt (R : Vec V → Vec V → Prop) (c : Ctx V) (e : Expr V) (o : OpSem V) (t : Int) : Prop :=
  ∃ xs out, o.step t = .ok xs ∧ eval c t e = .ok (.vec out) ∧ R (denote o.series xs) out

def ScalarInv (c : Ctx V) (e : Expr V) (o : OpSem V) : Prop :=
  o.series = [[]] ∧ ∀ t, ∃ s, o.step t = .ok [(0, s)] ∧ eval c t e = .ok (.scal s)

def VecOk (R : Vec V → Vec V → Prop) (c : Ctx V) (e : Expr V) : Prop :=
  ∃ o, engOp c e = .ok o ∧ ∀ t, AgreesAt R c e o t

def ScalOk (c : Ctx V) (e : Expr V) : Prop := ∃ o, engOp c e = .ok o ∧ ScalarInv c e o

def FilterMapClosed (R : Vec V → Vec V → Prop) : Prop :=
  ∀ (f : Labels × V → Option (Labels × V)) {v v' : Vec V}, R v v' → R (v.filterMap f) (v'.filterMap f)

section
variable {R : Vec V → Vec V → Prop} {c : Ctx V} {a e : Expr V} {o o' : OpSem V} {t : Int}

theorem ScalarInv.value (h : ScalarInv c e o) (t : Int) :
    ∃ s, scalarOf o t = .ok s ∧ eval c t e = .ok (.scal s) := by
  obtain ⟨s, hs, hev⟩ := h.2 t
  exact ⟨s, by rw [scalarOf, hs]; rfl, hev⟩

/-- **a filtering pointwise operator** (labels through `h`, values through `g`, `none` drops the
sample) over a child that agrees with `a`, against an expression whose reference value is the
same function of the value of `a`: reading through the series list commutes
(`denote_filterMap`), and `R` survives `filterMap`. -/
theorem AgreesAt.filterMap (hR : FilterMapClosed R) (ha : AgreesAt R c a o t)
    (h : Labels → Labels) (g : V → Option V) (hser : o'.series = o.series.map h)
    (hstep : ∀ xs, o.step t = .ok xs → o'.step t = .ok (xs.filterMap fun x => (g x.2).map fun b => (x.1, b)))
    (hev : ∀ v, eval c t a = .ok (.vec v) →
      eval c t e = .ok (.vec (v.filterMap fun p => (g p.2).map fun b => (h p.1, b)))) :
    AgreesAt R c e o' t := by
  obtain ⟨xs, out, hxs, hval, hr⟩ := ha
  refine ⟨_, _, hstep xs hxs, hev out hval, ?_⟩
  rw [hser, denote_filterMap]; exact hR _ hr

/-- the total case of `AgreesAt.filterMap` -/
theorem AgreesAt.map (hR : FilterMapClosed R) (ha : AgreesAt R c a o t)
    (h : Labels → Labels) (g : V → V) (hser : o'.series = o.series.map h)
    (hstep : ∀ xs, o.step t = .ok xs → o'.step t = .ok (xs.map fun x => (x.1, g x.2)))
    (hev : ∀ v, eval c t a = .ok (.vec v) → eval c t e = .ok (.vec (v.map fun p => (h p.1, g p.2)))) :
    AgreesAt R c e o' t :=
  ha.filterMap hR h (fun v => some (g v)) hser
    (by simpa only [Option.map_some, List.filterMap_eq_map'] using hstep)
    (by simpa only [Option.map_some, List.filterMap_eq_map'] using hev)

theorem VecOk.mono {R' : Vec V → Vec V → Prop} (h : VecOk R c e) (hRR' : ∀ v v', R v v' → R' v v') : VecOk R' c e :=
  let ⟨o, ho, h⟩ := h
  ⟨o, ho, fun t => let ⟨xs, out, h1, h2, h3⟩ := h t; ⟨xs, out, h1, h2, hRR' _ _ h3⟩⟩

theorem VecOk.congr (h : VecOk R c a) (ho : engOp c e = engOp c a) (he : ∀ t, eval c t e = eval c t a) :
    VecOk R c e :=
  let ⟨o, hoa, h⟩ := h
  ⟨o, ho ▸ hoa, fun t => let ⟨xs, out, h1, h2, h3⟩ := h t; ⟨xs, out, h1, he t ▸ h2, h3⟩⟩

theorem ScalOk.congr (h : ScalOk c a) (ho : engOp c e = engOp c a) (he : ∀ t, eval c t e = eval c t a) :
    ScalOk c e :=
  let ⟨o, hoa, hser, h⟩ := h; ⟨o, ho ▸ hoa, hser, fun t => he t ▸ h t⟩

/-- a step-invariant part: both sides evaluate it at the start of the window -/
theorem vecOk_stepInv (ha : VecOk R c a) : VecOk R c (.stepInv a) := by
  obtain ⟨o, ho, h⟩ := ha
  refine ⟨_, by rw [engOp_stepInv, ho]; rfl, fun t => ?_⟩
  obtain ⟨xs, out, h1, h2, h3⟩ := h c.start
  exact ⟨xs, out, h1, by rw [eval, h2], h3⟩

variable (hR : FilterMapClosed R) (hq : c.q.noDupCheck = true)
include hR

theorem vecOk_neg (ha : VecOk R c a) : VecOk R c (.neg a) := by
  obtain ⟨o, ho, h⟩ := ha
  refine ⟨_, by rw [engOp, ho]; rfl, fun t => ?_⟩
  refine (h t).map hR Labels.dropName neg rfl (fun xs hxs => ?_) (fun v hv => ?_)
  · simp only [hxs]; rfl
  · rw [eval, hv]; rfl

include hq

theorem vecOk_simple {fn : String} (hfn : simpleFns.contains fn = true) (ha : VecOk R c a) :
    VecOk R c (.call fn [a]) := by
  obtain ⟨o, ho, h⟩ := ha
  refine ⟨_, by rw [engOp_simple hfn (isMsel_of_engOp_ok ho), ho]; rfl, fun t => ?_⟩
  refine (h t).map hR Labels.dropName (applySimple fn) rfl (fun xs hxs => ?_) (fun v hv => eval_simple hq hfn hv)
  simp only [hxs]; rfl

theorem vecOk_clampMin {lo : Expr V} (ha : VecOk R c a) (hlo : ScalOk c lo) :
    VecOk R c (.call "clamp_min" [a, lo]) := by
  obtain ⟨o, ho, h⟩ := ha
  obtain ⟨ol, hol, hl⟩ := hlo
  refine ⟨_, by rw [engOp, ho, hol]; rfl, fun t => ?_⟩
  obtain ⟨s, hs, hes⟩ := hl.value t
  refine (h t).map hR Labels.dropName (maxGo s) rfl (fun xs hxs => ?_) (fun v hv => ?_)
  · simp only [hxs, hs]; rfl
  · rw [eval_call2, hv, hes, call2_clamp_min]; exact dedupCheck_ok hq _

theorem vecOk_clampMax {hi : Expr V} (ha : VecOk R c a) (hhi : ScalOk c hi) :
    VecOk R c (.call "clamp_max" [a, hi]) := by
  obtain ⟨o, ho, h⟩ := ha
  obtain ⟨oh, hoh, hh⟩ := hhi
  refine ⟨_, by rw [engOp, ho, hoh]; rfl, fun t => ?_⟩
  obtain ⟨s, hs, hes⟩ := hh.value t
  refine (h t).map hR Labels.dropName (minGo s) rfl (fun xs hxs => ?_) (fun v hv => ?_)
  · simp only [hxs, hs]; rfl
  · rw [eval_call2, hv, hes, call2_clamp_max]; exact dedupCheck_ok hq _

/-- inverted bounds drop every sample: the pointwise function is `none` throughout -/
theorem vecOk_clamp {lo hi : Expr V} (ha : VecOk R c a) (hlo : ScalOk c lo) (hhi : ScalOk c hi) :
    VecOk R c (.call "clamp" [a, lo, hi]) := by
  obtain ⟨o, ho, h⟩ := ha
  obtain ⟨ol, hol, hl⟩ := hlo
  obtain ⟨oh, hoh, hh⟩ := hhi
  refine ⟨_, by rw [engOp, ho, hol, hoh]; rfl, fun t => ?_⟩
  obtain ⟨sl, hsl, hel⟩ := hl.value t
  obtain ⟨sh, hsh, heh⟩ := hh.value t
  refine (h t).filterMap hR Labels.dropName (fun v => if lt sh sl then none else some (maxGo sl (minGo sh v))) rfl
    (fun xs hxs => ?_) (fun v hv => ?_)
  · simp only [hxs, hsl, hsh]
    cases hlt : lt sh sl <;> simp [hlt, bind, Except.bind, pure, Except.pure]
  · rw [eval_call3, hv, hel, heh, call3_clamp]
    cases hlt : lt sh sl
    · simpa using dedupCheck_ok hq _
    · simp

theorem vecOk_bin_vs {op : String} (bl : Bool) (m : Matching) {l r : Expr V}
    (hop : engineBinOps.contains op = true) (scalarLeft : Bool)
    (hl : l.isScalar = scalarLeft) (hr : r.isScalar = !scalarLeft)
    (ha : VecOk R c (bif scalarLeft then r else l)) (hs : ScalOk c (bif scalarLeft then l else r)) :
    VecOk R c (.bin op bl m l r) := by
  obtain ⟨o, ho, h⟩ := ha
  obtain ⟨os, hos, hsc⟩ := hs
  have hbuild : engOp c (.bin op bl m l r) = .ok (vsOp op bl scalarLeft o os) := by
    cases scalarLeft
    · exact engOp_bin_vs bl m hop false hl hr ho hos
    · exact engOp_bin_vs bl m hop true hl hr hos ho
  refine ⟨_, hbuild, fun t => ?_⟩
  obtain ⟨s, hs, hes⟩ := hsc.value t
  refine (h t).filterMap hR _ (vsFun op bl scalarLeft s) rfl (fun xs hxs => ?_) (fun v hv => ?_)
  · simp only [vsOp, hxs, hs]; rfl
  · rw [eval_bin_vs hq op bl m scalarLeft hv hes, vectorScalarBinop_eq]

end

section
variable {c : Ctx V} {a e : Expr V}

theorem scalOk_const (f : Int → V) (ho : engOp c e = .ok (constOp f)) (he : ∀ t, eval c t e = .ok (.scal (f t))) :
    ScalOk c e :=
  ⟨_, ho, rfl, fun t => ⟨f t, rfl, he t⟩⟩

theorem scalOk_stepInv (ha : ScalOk c a) : ScalOk c (.stepInv a) := by
  obtain ⟨o, ho, hser, h⟩ := ha
  refine ⟨_, by rw [engOp_stepInv, ho]; rfl, ?_, fun t => ?_⟩
  · exact hser
  · obtain ⟨s, h1, h2⟩ := h c.start
    exact ⟨s, h1, by rw [eval, h2]⟩

theorem scalOk_neg (ha : ScalOk c a) : ScalOk c (.neg a) := by
  obtain ⟨o, ho, hser, h⟩ := ha
  refine ⟨_, by rw [engOp, ho]; rfl, by simp only [hser]; rfl, fun t => ?_⟩
  obtain ⟨s, h1, h2⟩ := h t
  exact ⟨neg s, by simp only [h1]; rfl, by rw [eval, h2]; rfl⟩

/-- `scalar()` looks at the values of the step only: the same whether taken from the ID vector or
through the series list -/
theorem single_value_of_valid (S : List Labels) (xs : IdVec V) (h : ∀ x ∈ xs, x.1 < S.length) :
    singleVal xs = singleVal (denote S xs) := by
  rw [denote_eq_map_of_valid S xs h]
  cases xs with
  | nil => rfl
  | cons x rest => cases rest <;> rfl

/-- `scalar()` counts the samples of the step: the engine on IDs, the reference through the series
list, which agree because the IDs are valid (`hids`) -/
theorem scalOk_scalar (ha : VecOk Eq c a)
    (hids : ∀ o, engOp c a = .ok o → ∀ t xs, o.step t = .ok xs → ∀ x ∈ xs, x.1 < o.series.length) :
    ScalOk c (.call "scalar" [a]) := by
  obtain ⟨o, ho, h⟩ := ha
  refine ⟨_, by rw [engOp_scalar (isMsel_of_engOp_ok ho), ho]; rfl, rfl, fun t => ?_⟩
  obtain ⟨xs, out, hxs, hval, rfl⟩ := h t
  refine ⟨singleVal xs, ?_, by rw [eval_scalar hval, single_value_of_valid o.series xs (hids o ho t xs hxs)]⟩
  simp only [hxs, Except.map, singleVal]
  cases xs with
  | nil => rfl
  | cons x rest => cases rest <;> rfl

theorem vecOk_vector (ha : ScalOk c a) : VecOk Eq c (.call "vector" [a]) := by
  obtain ⟨o, ho, _, h⟩ := ha
  refine ⟨_, by rw [engOp_vector (isMsel_of_engOp_ok ho), ho]; rfl, fun t => ?_⟩
  obtain ⟨s, h1, h2⟩ := h t
  exact ⟨[(0, s)], _, h1, eval_vector h2, rfl⟩

/-- the engine builds the selector in its timestamp mode and drops the name: at every step it
emits exactly the reference value -/
theorem vecOk_timestamp_vsel (c : Ctx V) (hq : c.q.noDupCheck = true) (hts : c.q.timestampIsStepTime = false)
    (s : VSel) (hat : s.atTs = none) : VecOk Eq c (.call "timestamp" [.vsel s]) := by
  refine ⟨_, engOp_timestamp_vsel c s, fun t => ⟨_, _, rfl, eval_timestamp_vsel c hq hts s hat t, ?_⟩⟩
  exact engSelector_denote c s true Labels.dropName t _ rfl

theorem scalOk_bin_ss {op : String} (bl : Bool) (m : Matching) {x y : Expr V}
    (hop : engineBinOps.contains op = true) (hx : x.isScalar = true) (hy : y.isScalar = true)
    (hox : ScalOk c x) (hoy : ScalOk c y) : ScalOk c (.bin op bl m x y) := by
  obtain ⟨ox, hox, hserx, hx'⟩ := hox
  obtain ⟨oy, hoy, hy'⟩ := hoy
  refine ⟨_, engOp_bin_ss bl m hop hx hy hox hoy, ?_, fun t => ?_⟩
  · simp only [ssOp, hserx, List.map_cons, List.map_nil]
    split <;> rfl
  · obtain ⟨sx, hsx, hex⟩ := hx' t
    obtain ⟨sy, hsy, hey⟩ := hy'.value t
    refine ⟨_, by simp only [ssOp, hsx, hsy]; rfl, ?_⟩
    rw [eval, hex, hey]; rfl

end

omit [Val V] in
theorem eq_filterMap : FilterMapClosed (V := V) Eq := fun _ _ _ h => h ▸ rfl

def FragOk (c : Ctx V) (b : Bool) (e : Expr V) : Prop :=
  match b with
  | true => ScalOk c e
  | false => VecOk Eq c e

theorem FragOk.congr {c : Ctx V} {b : Bool} {a e : Expr V} (h : FragOk c b a) (ho : engOp c e = engOp c a)
    (he : ∀ t, eval c t e = eval c t a) : FragOk c b e := by
  cases b
  · exact VecOk.congr h ho he
  · exact ScalOk.congr h ho he

theorem frag_ok (c : Ctx V) (hq : c.q.noDupCheck = true) {b : Bool} {e : Expr V} (h : Frag b e) : FragOk c b e := by
  induction h with
  | num v => exact scalOk_const (fun _ => v) (by rw [engOp]) (fun t => by rw [eval])
  | time => exact scalOk_const _ (by rw [engOp]) (fun t => by rw [eval_call_none, if_pos rfl])
  | pi => exact scalOk_const (fun _ => pi) (by rw [engOp]) (fun t => by rw [eval_call_none, if_neg (by decide), if_pos rfl])
  | stepInvNum v => exact scalOk_stepInv (scalOk_const (fun _ => v) (by rw [engOp]) (fun t => by rw [eval]))
  | vsel s => exact ⟨_, by rw [engOp], fun t => ⟨_, _, rfl, by rw [eval], Except.ok.inj (engSelector_den c s t)⟩⟩
  | rangefn fn s r hfn =>
    exact ⟨_, by rw [engOp, if_pos hfn], fun t => ⟨_, _, rfl, by rw [eval_rangecall, if_pos (Bool.and_eq_true _ _ ▸ hfn).2],
      Except.ok.inj (engRangeFn_den c fn s r t)⟩⟩
  | neg b a _ ih =>
    cases b
    · exact vecOk_neg eq_filterMap ih
    · exact scalOk_neg ih
  | pos b a _ ih | paren b a _ ih => exact ih.congr (by rw [engOp]) fun t => by rw [eval]
  | stepInv b a _ _ ih =>
    cases b
    · exact vecOk_stepInv ih
    · exact scalOk_stepInv ih
  | simple fn a hfn _ ih => exact vecOk_simple eq_filterMap hq hfn ih
  | scalar a ha ih => exact scalOk_scalar ih fun o ho t xs hxs => frag_ids ha ho hxs
  | vector a _ ih => exact vecOk_vector ih
  | clampMin a lo _ _ iha ihlo => exact vecOk_clampMin eq_filterMap hq iha ihlo
  | clampMax a hi _ _ iha ihhi => exact vecOk_clampMax eq_filterMap hq iha ihhi
  | clamp a lo hi _ _ _ iha ihlo ihhi => exact vecOk_clamp eq_filterMap hq iha ihlo ihhi
  | binVS op bl m a sc hop ha hs iha ihs =>
    exact vecOk_bin_vs eq_filterMap hq bl m hop false (frag_isScalar _ _ ha) (frag_isScalar _ _ hs) iha ihs
  | binSV op bl m sc a hop hs ha ihs iha =>
    exact vecOk_bin_vs eq_filterMap hq bl m hop true (frag_isScalar _ _ hs) (frag_isScalar _ _ ha) iha ihs
  | binSS op bl m x y hop hx hy ihx ihy =>
    exact scalOk_bin_ss bl m hop (frag_isScalar _ _ hx) (frag_isScalar _ _ hy) ihx ihy

theorem frag_inv (c : Ctx V) (hq : c.q.noDupCheck = true) (b : Bool) (e : Expr V) (h : Frag b e) :
    ∃ o, engOp c e = .ok o ∧ Inv c b e o := by
  have hok := frag_ok c hq h
  cases b
  · obtain ⟨o, ho, hstep⟩ := hok
    refine ⟨o, ho, nofun, fun t => ?_⟩
    obtain ⟨xs, out, h1, h2, rfl⟩ := hstep t
    exact ⟨xs, h1, frag_ids h ho h1, h2⟩
  · obtain ⟨o, ho, hser, hstep⟩ := hok
    refine ⟨o, ho, fun _ => hser, fun t => ?_⟩
    obtain ⟨s, h1, h2⟩ := hstep t
    exact ⟨_, h1, frag_ids h ho h1, s, rfl, h2⟩

end PromqlVerif
