/-
The value of an expression at a step does not depend on where the query window starts - which is
what makes the point of a range query at `t` the result of an instant query at `t` (the range query
evaluates with `start` = the first step, the instant query with `start = t`). The window start
enters the semantics in two places only: step-invariant wrappers are evaluated at `start`, and an
`@`-pinned selector's offset was fixed up relative to `start`. For a preprocessed expression - every
pinned selector below a wrapper, every wrapper's body free of `time()` / `timestamp()` - the two
cancel.
-/
import PromqlVerif.Proofs.EvalCongr
import PromqlVerif.Proofs.ExprInd
namespace PromqlVerif
open Val

variable {V : Type} [Val V]

def withStart (c : Ctx V) (s : Int) : Ctx V := { c with start := s }

/-- a pinned selector evaluated at the window start reads at `ts - offset`, wherever the window starts -/
theorem refTime_pinned (s : VSel) (h : s.atTs.isSome = true) (s1 s2 : Int) :
    s.refTime s1 s1 = s.refTime s2 s2 := by
  obtain ⟨ts, hts⟩ := Option.isSome_iff_exists.mp h
  unfold VSel.refTime VSel.offsetAt
  rw [hts]
  simp only
  omega

/-- an unpinned selector reads at `t - offset`, wherever the window starts -/
theorem refTime_unpinned (s : VSel) (h : s.atTs = none) (s1 s2 t : Int) :
    s.refTime s1 t = s.refTime s2 t := by
  unfold VSel.refTime VSel.offsetAt
  rw [h]

section
variable (c : Ctx V) (s1 s2 : Int)

theorem matchingSeries_start (s : VSel) (st : Int) : matchingSeries (withStart c st) s = matchingSeries c s := rfl

theorem selectT_start (s : VSel) (st ref : Int) : selectT (withStart c st) s ref = selectT c s ref := rfl

/-- the body of a step-invariant wrapper: every selector pinned, no `time()`, no `timestamp()`,
no nested wrapper -/
def Pin : Expr V → Prop
  | .num _ => True
  | .str => True
  | .vsel s => s.atTs.isSome = true
  | .msel s _ => s.atTs.isSome = true
  | .subq e => Pin e
  | .call fn args => fn ≠ "time" ∧ fn ≠ "timestamp" ∧ pinArgs args
  | .agg _ _ _ e => Pin e
  | .aggP _ _ _ p e => Pin p ∧ Pin e
  | .bin _ _ _ l r => Pin l ∧ Pin r
  | .neg e => Pin e
  | .pos e => Pin e
  | .paren e => Pin e
  | .stepInv _ => False
  | .coalesce _ => False
  | .remote _ _ => False
where
  pinArgs : List (Expr V) → Prop
    | [] => True
    | a :: as => Pin a ∧ pinArgs as

/-- a preprocessed expression: unpinned selectors outside wrappers, pinned bodies inside -/
def WP : Expr V → Prop
  | .num _ => True
  | .str => True
  | .vsel s => s.atTs = none
  | .msel s _ => s.atTs = none
  | .subq e => WP e
  | .call _ args => wpArgs args
  | .agg _ _ _ e => WP e
  | .aggP _ _ _ p e => WP p ∧ WP e
  | .bin _ _ _ l r => WP l ∧ WP r
  | .neg e => WP e
  | .pos e => WP e
  | .paren e => WP e
  | .stepInv e => Pin e
  | .coalesce _ => False
  | .remote _ _ => False
where
  wpArgs : List (Expr V) → Prop
    | [] => True
    | a :: as => WP a ∧ wpArgs as

omit [Val V] in
theorem pinArgs_mem {args : List (Expr V)} (h : Pin.pinArgs args) : ∀ a ∈ args, Pin a :=
  forall_mem_of_cons_and (fun _ _ h => h) h

omit [Val V] in
theorem wpArgs_mem {args : List (Expr V)} (h : WP.wpArgs args) : ∀ a ∈ args, WP a :=
  forall_mem_of_cons_and (fun _ _ h => h) h

omit [Val V] in
theorem selectV_start {s : VSel} {t1 t2 : Int} (hr : s.refTime s1 t1 = s.refTime s2 t2) :
    selectV (withStart c s1) s t1 = selectV (withStart c s2) s t2 :=
  selectV_congr (c₁ := withStart c s1) (c₂ := withStart c s2) rfl rfl hr

theorem evalRangeFn_start {s : VSel} {t1 t2 : Int} (hr : s.refTime s1 t1 = s.refTime s2 t2) (fn : String)
    (r : Int) : evalRangeFn (withStart c s1) fn s r t1 = evalRangeFn (withStart c s2) fn s r t2 :=
  evalRangeFn_congr (c₁ := withStart c s1) (c₂ := withStart c s2) rfl hr

theorem tsBody_start (t : Int) (u : Expr V) (r : Except Err (Value V)) :
    tsBody (withStart c s1) t u r = tsBody (withStart c s2) t u r := by
  cases u with
  | vsel s =>
    exact tsBody_congr (c₁ := withStart c s1) (c₂ := withStart c s2) rfl rfl rfl rfl rfl
      (fun h => refTime_unpinned s h s1 s2 t)
  | _ => rfl

/-- the body of a step-invariant wrapper has the same value at the start of any window -/
theorem pin_inv : ∀ e : Expr V, Pin e → eval (withStart c s1) s1 e = eval (withStart c s2) s2 e := by
  intro e
  -- in every case `Pin` of the node unfolds, by computation, to what is asked of its children
  induction e using Expr.induct with
  | vsel s => exact fun h => by rw [eval, eval, selectV_start c s1 s2 (refTime_pinned s h s1 s2)]
  | call fn args ih =>
    intro ⟨h1, h2, h3⟩
    apply eval_call_congr_ctx (fun a ha => ih a ha (pinArgs_mem h3 a ha)) rfl rfl (fun hh => absurd hh h1) ?_
      (fun hh => absurd hh h2)
    rintro s r rfl
    exact evalRangeFn_start c s1 s2 (refTime_pinned s (pinArgs_mem h3 _ List.mem_cons_self) s1 s2) fn r
  | agg op w g e ih => exact fun h => eval_agg_congr (ih h) rfl
  | aggP op w g p e ihp ihe => exact fun h => eval_aggP_congr (ihp h.1) (ihe h.2) rfl
  | bin op b m l r ihl ihr => exact fun h => eval_bin_congr (ihl h.1) (ihr h.2) rfl
  | neg e ih | pos e ih | paren e ih => exact fun h => by rw [eval, eval, ih h]
  | num | str | msel | subq => exact fun _ => by rw [eval, eval]
  | stepInv | coalesce | remote => exact fun h => h.elim

/-- **the value of a preprocessed expression at a step does not depend on the window start** -/
theorem wp_inv : ∀ e : Expr V, WP e → ∀ t, eval (withStart c s1) t e = eval (withStart c s2) t e := by
  intro e
  induction e using Expr.induct with
  | vsel s => exact fun h t => by rw [eval, eval, selectV_start c s1 s2 (refTime_unpinned s h s1 s2 t)]
  | call fn args ih =>
    intro h t
    apply eval_call_congr_ctx (fun a ha => ih a ha (wpArgs_mem h a ha) t) rfl rfl (fun _ => rfl) ?_
      (fun _ a _ r => tsBody_start c s1 s2 t a.unwrap r)
    rintro s r rfl
    exact evalRangeFn_start c s1 s2 (refTime_unpinned s (wpArgs_mem h _ List.mem_cons_self) s1 s2 t) fn r
  | agg op w g e ih => exact fun h t => eval_agg_congr (ih h t) rfl
  | aggP op w g p e ihp ihe => exact fun h t => eval_aggP_congr (ihp h.1 t) (ihe h.2 t) rfl
  | bin op b m l r ihl ihr => exact fun h t => eval_bin_congr (ihl h.1 t) (ihr h.2 t) rfl
  | neg e ih | pos e ih | paren e ih => exact fun h t => by rw [eval, eval, ih h t]
  | stepInv e => exact fun h t => by rw [eval, eval]; exact pin_inv c s1 s2 e h
  | num | str | msel | subq => exact fun _ t => by rw [eval, eval]
  | coalesce | remote => exact fun h => h.elim

end

end PromqlVerif
