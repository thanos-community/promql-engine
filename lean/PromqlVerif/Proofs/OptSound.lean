/-
Plan-level soundness of the selector-rewriting optimizers (SortMatchers, MergeSelects): a rewrite
that replaces every selector by one selecting the same series at the same times leaves the value
of the whole expression unchanged at every step. `mapSelectors` is the model of `traverse` (which
nodes a selector transform reaches); the induction follows it.
-/
import PromqlVerif.Plan
import PromqlVerif.Proofs.EvalCongr
import PromqlVerif.Proofs.ExprInd
import PromqlVerif.Proofs.Matchers
namespace PromqlVerif
open Val

variable {V : Type} [Val V]

/-- two selectors that select the same series at the same times -/
def SameSel (c : Ctx V) (s' s : VSel) : Prop :=
  s'.origOffset = s.origOffset ∧ s'.atTs = s.atTs ∧
    ∀ ls, matchAll c.re s'.allMatchers ls = matchAll c.re s.allMatchers ls

omit [Val V] in
theorem sameSel_refl (c : Ctx V) (s : VSel) : SameSel c s s := ⟨rfl, rfl, fun _ => rfl⟩

omit [Val V] in
theorem matchingSeries_same {c : Ctx V} {s' s : VSel} (h : SameSel c s' s) :
    matchingSeries c s' = matchingSeries c s := by
  unfold matchingSeries
  apply List.filter_congr
  intro sr _
  exact h.2.2 sr.labels

omit [Val V] in
theorem refTime_same {c : Ctx V} {s' s : VSel} (h : SameSel c s' s) (start t : Int) :
    s'.refTime start t = s.refTime start t := by
  unfold VSel.refTime VSel.offsetAt
  rw [h.1, h.2.1]

omit [Val V] in
theorem selectV_same {c : Ctx V} {s' s : VSel} (h : SameSel c s' s) (t : Int) :
    selectV c s' t = selectV c s t :=
  selectV_congr (matchingSeries_same h) rfl (refTime_same h _ _)

/-- what a selector rewrite does to a node: same value; a matrix selector stays one over an
equivalent selector; the unwrapped form stays a vector selector (an equivalent one) or stays none.
"Same value" alone is no induction hypothesis: `eval` of a call looks at the syntax of a single
argument (`eval_call_congr`, `hone`) - a matrix selector is read by the range function, `timestamp`
looks at the unwrapped form - and the clauses after the first are what that asks. -/
def SRel (c : Ctx V) (a' a : Expr V) : Prop :=
  (∀ t, eval c t a' = eval c t a) ∧
  (∀ s r, a = .msel s r → ∃ s', a' = .msel s' r ∧ SameSel c s' s) ∧
  isMsel a' = isMsel a ∧
  (∀ s, a.unwrap = .vsel s → ∃ s', a'.unwrap = .vsel s' ∧ SameSel c s' s) ∧
  ((∀ s, a.unwrap ≠ .vsel s) → ∀ s, a'.unwrap ≠ .vsel s)

theorem eval_call0 (c : Ctx V) (t : Int) (fn : String) (args' : List (Expr V)) (h : All2 (SRel c) args' []) :
    eval c t (.call fn args') = eval c t (.call fn []) := by
  cases h
  rfl

theorem scall_congr (c : Ctx V) (fn : String) (args' args : List (Expr V)) (h : All2 (SRel c) args' args)
    (t : Int) : eval c t (.call fn args') = eval c t (.call fn args) := by
  apply eval_call_congr h (fun _ _ hr => hr.1 t) rfl rfl (fun _ => rfl)
  rintro a' a rfl rfl ⟨_, hms, hm, hu1, hu2⟩
  refine ⟨hm, ?_, fun _ r => ?_⟩
  · rintro s' _ s r rfl rfl
    obtain ⟨_, he, hss⟩ := hms s r rfl
    cases he
    exact evalRangeFn_congr (matchingSeries_same hss) (refTime_same hss _ _)
  · by_cases hu : ∃ s, a.unwrap = .vsel s
    · obtain ⟨s, hua⟩ := hu
      obtain ⟨s', hs', hss⟩ := hu1 s hua
      rw [hs', hua]
      exact tsBody_congr rfl rfl (matchingSeries_same hss) hss.1 hss.2.1 (fun _ => refTime_same hss _ _)
    · exact tsBody_other c t _ _ (fun s hs => hu ⟨s, hs⟩) (hu2 fun s hs => hu ⟨s, hs⟩) r

theorem srel_refl (c : Ctx V) (a : Expr V) : SRel c a a :=
  ⟨fun _ => rfl, fun s _ h => ⟨s, h, sameSel_refl c s⟩, rfl, fun s h => ⟨s, h, sameSel_refl c s⟩, fun h => h⟩

/-- a node that is neither a selector nor a wrapper the unwrapping looks through (which its
constructor shows) -/
theorem srel_of_eval (c : Ctx V) (a' a : Expr V) (hev : ∀ t, eval c t a' = eval c t a)
    (hm' : isMsel a' = false := by rfl) (hm : isMsel a = false := by rfl)
    (hu' : ∀ s, a'.unwrap ≠ .vsel s := by intro s h; cases h)
    (hu : ∀ s, a.unwrap ≠ .vsel s := by intro s h; cases h) : SRel c a' a :=
  ⟨hev, fun s r h => (by subst h; cases hm), (by rw [hm', hm]), fun s h => absurd h (hu s), fun _ => hu'⟩

theorem srel_of_unwrap (c : Ctx V) (a' a : Expr V) (s' s : VSel) (hev : ∀ t, eval c t a' = eval c t a)
    (hs : SameSel c s' s) (hm' : isMsel a' = false := by rfl) (hm : isMsel a = false := by rfl)
    (hu' : a'.unwrap = .vsel s' := by rfl) (hu : a.unwrap = .vsel s := by rfl) : SRel c a' a :=
  ⟨hev, fun s r h => (by subst h; cases hm), (by rw [hm', hm]),
    fun s0 h => ⟨s', hu', (by rw [hu] at h; cases h; exact hs)⟩, fun h => absurd hu (h s)⟩

omit [Val V] in
theorem mapArgs_all2 {R : Expr V → Expr V → Prop} (f : VSel → VSel) :
    ∀ args : List (Expr V), (∀ a ∈ args, R (mapSelectors f a) a) → All2 R (mapSelectors.mapArgs f args) args
  | [], _ => All2.nil
  | a :: as, h =>
    All2.cons (h a List.mem_cons_self) (mapArgs_all2 f as fun x hx => h x (List.mem_cons_of_mem _ hx))

theorem mapSelectors_srel (c : Ctx V) (f : VSel → VSel) (hf : ∀ s, SameSel c (f s) s) :
    ∀ e : Expr V, SRel c (mapSelectors f e) e := by
  intro e
  induction e using Expr.induct with
  | vsel s =>
    rw [mapSelectors]
    exact srel_of_unwrap c _ _ (f s) s (fun t => by rw [eval, eval, selectV_same (hf s)]) (hf s)
  | msel s r =>
    rw [mapSelectors]
    refine ⟨fun t => (by rw [eval, eval]), fun s0 r0 h => ?_, rfl, fun s0 h => (by cases h), fun _ s0 h => (by cases h)⟩
    cases h
    exact ⟨f s, rfl, hf s⟩
  | stepInv e _ =>
    -- only a selector that is the direct child is reached
    cases e with
    | vsel s =>
      rw [mapSelectors]
      exact srel_of_unwrap c _ _ (f s) s (fun t => by rw [eval, eval, eval, eval, selectV_same (hf s)]) (hf s)
    | _ => exact srel_refl c _
  | agg op w g e ih =>
    rw [mapSelectors]
    exact srel_of_eval c _ _ fun t => eval_agg_congr (ih.1 t) rfl
  | aggP op w g p e _ ih =>
    rw [mapSelectors]
    exact srel_of_eval c _ _ fun t => eval_aggP_congr rfl (ih.1 t) rfl
  | call fn args ih =>
    rw [mapSelectors]
    exact srel_of_eval c _ _ fun t => scall_congr c fn _ args (mapArgs_all2 f args ih) t
  | bin op b m l r ihl ihr =>
    rw [mapSelectors]
    exact srel_of_eval c _ _ fun t => eval_bin_congr (ihl.1 t) (ihr.1 t) rfl
  | neg e ih | pos e ih =>
    rw [mapSelectors]
    exact srel_of_eval c _ _ fun t => by rw [eval, eval, ih.1 t]
  | paren e ih =>
    rw [mapSelectors]
    obtain ⟨hev, _, _, hu1, hu2⟩ := ih
    exact ⟨fun t => (by rw [eval, eval, hev t]), fun _ _ h => (by cases h), rfl, hu1, hu2⟩
  | subq e _ =>
    rw [mapSelectors]
    exact srel_of_eval c _ _ fun t => by rw [eval, eval]
  | num | str | coalesce | remote => exact srel_refl c _

/-- **a selector rewrite that keeps what every selector selects keeps the value of the plan** -/
theorem mapSelectors_sound (c : Ctx V) (f : VSel → VSel) (hf : ∀ s, SameSel c (f s) s) (e : Expr V) (t : Int) :
    eval c t (mapSelectors f e) = eval c t e := (mapSelectors_srel c f hf e).1 t

omit [Val V] in
theorem sameSel_sortMatchers (c : Ctx V) (s : VSel) : SameSel c { s with matchers := sortMatchers s.matchers } s :=
  ⟨rfl, rfl, matchAll_perm c.re ((List.mergeSort_perm s.matchers Matcher.le).append_right _)⟩

omit [Val V] in
theorem sameSel_mergeSel (c : Ctx V) (h : MatcherHeap) (s : VSel) : SameSel c (mergeSel h s) s :=
  ⟨(mergeSel_times h s).1, (mergeSel_times h s).2, mergeSel_sound c.re h s⟩

end PromqlVerif
