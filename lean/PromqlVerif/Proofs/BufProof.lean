/-
`selectPoints` over the buffered iterator is the declarative window `windowPoints`. `Seek` is followed
through the decomposition `S = old ++ ring ++ rest` of the sorted sample list (`Splits`); it changes
when `Next` passes a sample into the ring (`Splits.pass`), when the ring lets its oldest samples go
(`Splits.free`) and when `Seek` jumps (`Splits.jump`).
-/
import PromqlVerif.Proofs.WindowLemmas
namespace PromqlVerif

variable {V : Type}

/-- what is known between two calls of `selectPoints`: `S = old ++ ring ++ rest`, everything evicted
from (or skipped before) the ring is older than `bound - delta`, the ring holds only samples older
than `bound`; `lastTime` is the time of the sample under the cursor, or not set yet: the fresh
iterator -/
def BInv (S : List (Sample V)) (delta : Int) (b : Buf V) (bound : Int) : Prop :=
  ∃ old, S = old ++ (b.ring ++ b.rest) ∧ (∀ s ∈ old, s.t < bound - delta) ∧ (∀ s ∈ b.ring, s.t < bound) ∧
    (match b.rest with
     | x :: _ => b.lastTime = some x.t ∨ (b.lastTime = none ∧ old = [] ∧ b.ring = [])
     | [] => True)

theorem binv_new (S : List (Sample V)) (delta b : Int) : BInv S delta (Buf.new S) b := by
  refine ⟨[], rfl, nofun, nofun, ?_⟩
  cases S <;> simp [Buf.new]

/-- the list part of `BInv` while `Seek(t)` runs -/
def Splits (S : List (Sample V)) (delta t : Int) (ring rest : List (Sample V)) : Prop :=
  ∃ old, S = old ++ (ring ++ rest) ∧ (∀ s ∈ old, s.t < t - delta) ∧ ∀ s ∈ ring, s.t < t

theorem BInv.splits {S : List (Sample V)} {delta bound t : Int} {b : Buf V} (h : BInv S delta b bound)
    (hb : bound ≤ t) : Splits S delta t b.ring b.rest := by
  obtain ⟨old, hS, hold, hring, _⟩ := h
  exact ⟨old, hS, fun s hs => by have := hold s hs; omega, fun s hs => by have := hring s hs; omega⟩

theorem Splits.binv {S : List (Sample V)} {delta t : Int} {ring rest : List (Sample V)} {lastTime : Option Int}
    (h : Splits S delta t ring rest) (hl : ∀ x r, rest = x :: r → lastTime = some x.t) :
    BInv S delta ⟨rest, lastTime, ring⟩ t := by
  obtain ⟨old, hS, hold, hring⟩ := h
  refine ⟨old, hS, hold, hring, ?_⟩
  cases rest with
  | nil => trivial
  | cons x r => exact Or.inl (hl x r rfl)

theorem Splits.free {S : List (Sample V)} {delta t : Int} {d ring rest : List (Sample V)}
    (h : Splits S delta t (d ++ ring) rest) (hd : ∀ s ∈ d, s.t < t - delta) : Splits S delta t ring rest := by
  obtain ⟨old, hS, hold, hring⟩ := h
  exact ⟨old ++ d, by rw [hS]; simp, List.forall_mem_append.mpr ⟨hold, hd⟩,
    fun s hs => hring s (List.mem_append_right _ hs)⟩

/-- `Next` moves the current sample into the ring; what the ring frees is older than the sample by
more than `delta` -/
theorem Splits.pass {S : List (Sample V)} {delta t : Int} {ring rest : List (Sample V)} {x : Sample V}
    (h : Splits S delta t ring (x :: rest)) (hx : x.t < t) : Splits S delta t (ringAdd delta ring x) rest := by
  obtain ⟨d, hd1, hd2⟩ := dropOlder_split (ring ++ [x]) (x.t - delta)
  have h' : Splits S delta t (ring ++ [x]) rest := by
    obtain ⟨old, hS, hold, hring⟩ := h
    exact ⟨old, by rw [hS]; simp, hold, List.forall_mem_append.mpr ⟨hring, by simpa using hx⟩⟩
  rw [hd1] at h'
  exact h'.free fun s hs => by have := hd2 s hs; omega

/-- the jump of `Seek`: the ring, already older than `t - delta`, is let go, and so is what the
underlying iterator skips -/
theorem Splits.jump {S : List (Sample V)} {delta t : Int} {ring rest : List (Sample V)}
    (h : Splits S delta t ring rest) (hring : ∀ s ∈ ring, s.t < t - delta) :
    Splits S delta t [] (rest.dropWhile fun s => decide (s.t < t - delta)) := by
  obtain ⟨old, hS, hold, _⟩ := h
  obtain ⟨d, hd1, hd2⟩ := dropOlder_split rest (t - delta)
  refine ⟨old ++ (ring ++ d), ?_, List.forall_mem_append.mpr ⟨hold, List.forall_mem_append.mpr ⟨hring, hd2⟩⟩, nofun⟩
  rw [hS]; conv => lhs; rw [hd1]
  simp

theorem nextLoopB_spec (S : List (Sample V)) (delta t : Int) (ring : List (Sample V)) (lastTime : Option Int)
    (rest : List (Sample V)) (h : Splits S delta t ring rest) (hhead : ∀ x r, rest = x :: r → x.t < t) :
    let res := Buf.nextLoop delta t ring lastTime rest
    BInv S delta res.1 t ∧
      (match res.1.rest with
       | x :: _ => x.t ≥ t ∧ res.2 = true
       | [] => res.2 = false) := by
  fun_induction Buf.nextLoop delta t ring lastTime rest with
  | case1 => exact ⟨h.binv nofun, rfl⟩
  | case2 => exact ⟨(h.pass (hhead _ _ rfl)).binv nofun, rfl⟩
  | case3 _ _ x y tl' hy => exact ⟨(h.pass (hhead _ _ rfl)).binv (by intro x' r' e; cases e; rfl), hy, rfl⟩
  | case4 _ _ x y tl' hy ih => exact ih (h.pass (hhead _ _ rfl)) (by intro x' r' e; cases e; omega)

/-- the second half of `Buf.seek`, after the jump: stay if the cursor is at or after `t`, else go on
with `Next` -/
theorem settleB_spec (S : List (Sample V)) (delta t : Int) (b : Buf V) (h : Splits S delta t b.ring b.rest)
    (hlast : ∀ x r, b.rest = x :: r → b.lastTime = some x.t) :
    let r := if geOpt b.lastTime t then (b, !b.rest.isEmpty) else Buf.nextLoop delta t b.ring b.lastTime b.rest
    BInv S delta r.1 t ∧
      (match r.1.rest with
       | x :: _ => x.t ≥ t ∧ r.2 = true
       | [] => r.2 = false) := by
  obtain ⟨rest, lastTime, ring⟩ := b
  intro r
  cases rest with
  | nil =>
    have hr : r = (⟨[], lastTime, ring⟩, false) := by simp only [r]; split <;> rfl
    rw [hr]
    exact ⟨h.binv nofun, rfl⟩
  | cons x tl =>
    have hlt : lastTime = some x.t := hlast x tl rfl
    by_cases hge : x.t ≥ t
    · have hr : r = (⟨x :: tl, lastTime, ring⟩, true) := by simp [r, hlt, geOpt, hge]
      rw [hr]
      exact ⟨h.binv hlast, hge, rfl⟩
    · have hr : r = Buf.nextLoop delta t ring lastTime (x :: tl) := by simp [r, hlt, geOpt, hge]
      rw [hr]
      exact nextLoopB_spec S delta t _ _ (x :: tl) h (by intro x' r' e; cases e; omega)

/-- **`Seek(t)` of the buffered iterator**, for a non-decreasing sequence of targets -/
theorem seekB_spec (S : List (Sample V)) (hs : SortedT S) (delta : Int) (b : Buf V)
    (bound t : Int) (hb : bound ≤ t) (h : BInv S delta b bound) :
    BInv S delta (b.seek delta t).1 t ∧
      (match (b.seek delta t).1.rest with
       | x :: _ => x.t ≥ t ∧ (b.seek delta t).2 = true
       | [] => (b.seek delta t).2 = false) := by
  have hsp := h.splits hb
  obtain ⟨old, hS, _, _, hlast⟩ := h
  unfold Buf.seek
  simp only
  by_cases hj : (!b.rest.isEmpty && ltOpt b.lastTime (t - delta)) = true
  · -- the jump: ring and cursor are older than `t - delta`, so everything up to the target is let go
    rw [if_pos hj]
    simp only [Bool.and_eq_true, Bool.not_eq_true', List.isEmpty_eq_false_iff] at hj
    obtain ⟨hne, hlt0⟩ := hj
    have hring0 : ∀ s ∈ b.ring, s.t < t - delta := by
      cases hrest : b.rest with
      | nil => exact absurd hrest hne
      | cons x0 tl0 =>
        rw [hrest] at hlast
        rcases hlast with h1 | ⟨_, _, h3⟩
        · intro s hs'
          have hx0 : x0.t < t - delta := by simpa [h1, ltOpt] using hlt0
          have hsrr : SortedT (b.ring ++ b.rest) := (List.pairwise_append.mp (hS ▸ hs)).2.1
          have := (List.pairwise_append.mp hsrr).2.2 s hs' x0 (hrest ▸ List.mem_cons_self)
          omega
        · rw [h3]; nofun
    have hsp' := hsp.jump hring0
    cases hdw : b.rest.dropWhile (fun s => decide (s.t < t - delta)) with
    | nil => exact ⟨(hdw ▸ hsp').binv nofun, rfl⟩
    | cons x r =>
      exact settleB_spec S delta t ⟨x :: r, some x.t, []⟩ (hdw ▸ hsp') (by intro x' r' e; cases e; rfl)
  · -- no jump: the cursor's time is known
    rw [if_neg hj]
    refine settleB_spec S delta t b hsp fun x r hrest => ?_
    rw [hrest] at hlast
    rcases hlast with h1 | ⟨h1, _, _⟩
    · exact h1
    · exact absurd (by simp [hrest, h1, ltOpt]) hj

/-- the sought sample, as `selectPoints` reads it -/
def soughtOf (ok : Bool) (rest : List (Sample V)) (maxt : Int) : List (Int × V) :=
  if ok then
    match rest.head? with
    | some ⟨t, .num v⟩ => if t == maxt then [(t, v)] else []
    | _ => []
  else []

theorem inWin_eq_ptOf {lo hi : Int} {s : Sample V} (h : s.t ≤ hi) : inWin lo hi s = ptOf lo s := by
  cases hv : s.v <;> simp [inWin, ptOf, hv, h]

/-- a window read off the iterator's position after `Seek(maxt)`: nothing of the window lies before
the ring -/
theorem window_of_position (S old ring rest : List (Sample V)) (hs : SortedT S) (ok : Bool)
    (lo maxt : Int) (hlo : lo ≤ maxt) (hold : windowPoints lo maxt old = [])
    (hring : ∀ s ∈ ring, s.t < maxt)
    (hpos : match rest with | x :: _ => x.t ≥ maxt ∧ ok = true | [] => ok = false)
    (hS : S = old ++ (ring ++ rest)) :
    windowPoints lo maxt S = ring.filterMap (ptOf lo) ++ soughtOf ok rest maxt := by
  subst hS
  rw [window_append, window_append, hold, List.nil_append]
  congr 1
  · exact filterMap_congr' fun s hs' => inWin_eq_ptOf (by have := hring s hs'; omega)
  · cases rest with
    | nil => simp [soughtOf, hpos, windowPoints]
    | cons x r =>
      have hsr : SortedT (x :: r) := (List.pairwise_append.mp (List.pairwise_append.mp hs).2.1).2.1
      have hrn : windowPoints lo maxt r = [] :=
        window_nil fun s hs' => by have := List.rel_of_pairwise_cons hsr hs'; omega
      rw [show x :: r = [x] ++ r from rfl, window_append, hrn, List.append_nil]
      obtain ⟨xt, xv⟩ := x
      have hx : xt ≥ maxt := hpos.1
      cases xv with
      | stale => simp [soughtOf, hpos.2, windowPoints]
      | num v =>
        by_cases he : xt = maxt
        · subst he
          simp [soughtOf, hpos.2, windowPoints, hlo]
        · have : ¬ xt ≤ maxt := by omega
          simp [soughtOf, hpos.2, windowPoints, this, he]

/-- **C03, operational half: `selectPoints` over the buffered iterator is the reference window**.
`delta` is the ring's current delta, `R ≥ delta` the window length, `out` what was retained from an
earlier window that started no later and ended earlier. Where the ring no longer reaches back to
the window's start (`delta < R` after `ReduceDelta`), the non-stale samples of that gap must be in
`out`. -/
theorem selectPointsB_window (S : List (Sample V)) (hs : SortedT S) (delta R : Int) (hR : 0 ≤ R) (b : Buf V)
    (bound maxt : Int) (hb : bound ≤ maxt) (hinv : BInv S delta b bound)
    (out : List (Int × V)) (lo' hi' : Int) (hout : out = windowPoints lo' hi' S)
    (hlo : lo' ≤ maxt - R) (hhi : hi' < maxt)
    (hgap : ∀ s ∈ S, maxt - R ≤ s.t → s.t < maxt - delta → ∀ p, inWin (maxt - R) maxt s = some p → p ∈ out) :
    (selectPointsB delta b (maxt - R) maxt out).2 = windowPoints (maxt - R) maxt S ∧
      BInv S delta (selectPointsB delta b (maxt - R) maxt out).1 maxt := by
  obtain ⟨hinv', hpos⟩ := seekB_spec S hs delta b bound maxt hb hinv
  refine ⟨?_, hinv'⟩
  obtain ⟨old, hS, hold, hring, _⟩ := hinv'
  have hmax : ∀ l, out.getLast? = some l → ∀ p ∈ out, p.1 ≤ l.1 := by
    intro l hl p hp
    obtain ⟨_, _, _, h4⟩ := window_after_last S hs lo' hi' l (hout ▸ hl)
    rw [hout, h4] at hp
    exact (mem_window hp).2
  -- ring and sought sample give the window from any `lo` that `out` lies below: a sample the ring
  -- has let go of is in the gap, so its point is in `out`
  have pos : ∀ lo, maxt - R ≤ lo → lo ≤ maxt → (∀ p ∈ out, p.1 < lo) →
      windowPoints lo maxt S = (b.seek delta maxt).1.ring.filterMap (ptOf lo) ++
        soughtOf (b.seek delta maxt).2 (b.seek delta maxt).1.rest maxt := by
    intro lo h0 h1 h2
    refine window_of_position S old _ _ hs _ lo maxt h1 ?_ hring hpos hS
    refine List.filterMap_eq_nil_iff.mpr fun s hs' => ?_
    have hst := hold s hs'
    cases hw : inWin lo maxt s with
    | none => exact hw
    | some p =>
      obtain ⟨hp1, hp2, hp3, hp4⟩ := inWin_eq_some.mp hw
      have hin := hgap s (hS ▸ List.mem_append_left _ hs') (by omega) hst p
        (hw ▸ inWin_congr (by omega))
      have := h2 p hin
      omega
  unfold selectPointsB
  simp only
  cases hl : out.getLast? with
  | none =>
    have hemp : out = [] := List.getLast?_eq_none_iff.mp hl
    simp only [List.nil_append]
    exact (pos (maxt - R) (by omega) (by omega) (by rw [hemp]; nofun)).symm
  | some l =>
    simp only
    by_cases hge : l.1 ≥ maxt - R
    · simp only [hge, if_true]
      obtain ⟨h1, h2, _, h4⟩ := window_after_last S hs lo' hi' l (hout ▸ hl)
      -- split the window at the last retained point `l`: up to `l` it is `out` cut at `mint`
      -- (`window_dropWhile`), from `l.1 + 1` on it is the ring and the sought sample (`pos`)
      rw [window_split S hs (maxt - R) l.1 maxt (by omega) (by omega),
        pos (l.1 + 1) (by omega) (by omega) (fun p hp => by have := hmax l hl p hp; omega),
        hout, h4, window_dropWhile S hs lo' (maxt - R) l.1 hlo]
      simp only [soughtOf, List.append_assoc]
      rfl
    · simp only [hge, if_false, List.nil_append]
      exact (pos (maxt - R) (by omega) (by omega) (fun p hp => by have := hmax l hl p hp; omega)).symm

theorem selectPointsB_spec (S : List (Sample V)) (hs : SortedT S) (delta R : Int) (hd : 0 ≤ delta)
    (hdR : delta ≤ R) (b : Buf V)
    (bound maxt : Int) (hb : bound ≤ maxt) (hinv : BInv S delta b bound)
    (out : List (Int × V)) (lo' hi' : Int) (hout : out = windowPoints lo' hi' S)
    (hlo : lo' ≤ maxt - R) (hhi : hi' < maxt)
    (hgap : ∀ s ∈ S, maxt - R ≤ s.t → s.t < maxt - delta → ∀ p, inWin (maxt - R) maxt s = some p → p ∈ out) :
    (selectPointsB delta b (maxt - R) maxt out).2 = windowPoints (maxt - R) maxt S ∧
      BInv S delta (selectPointsB delta b (maxt - R) maxt out).1 maxt :=
  selectPointsB_window S hs delta R (by omega) b bound maxt hb hinv out lo' hi' hout hlo hhi hgap

/-- `ReduceDelta(d)`: what the ring frees is older than its newest sample by more than `d` -/
theorem BInv.reduce (S : List (Sample V)) (delta d : Int) (b : Buf V) (bound : Int) (hd : d ≤ delta)
    (h : BInv S delta b bound) : BInv S d { b with ring := reduceRing d b.ring } bound := by
  obtain ⟨old, hS, hold, hring, hlast⟩ := h
  have hold' : ∀ s ∈ old, s.t < bound - d := fun s hs' => by have := hold s hs'; omega
  unfold reduceRing
  cases hl : b.ring.getLast? with
  | none => exact ⟨old, hS, hold', hring, hlast⟩
  | some l =>
    obtain ⟨dd, h1, h2⟩ := dropOlder_split b.ring (l.t - d)
    have hlt : l.t < bound := hring l (List.mem_of_getLast? hl)
    obtain ⟨old', h3, h4, h5⟩ := Splits.free (S := S) (delta := d) (t := bound) (rest := b.rest) ⟨old, h1 ▸ hS, hold', h1 ▸ hring⟩
      fun s hs' => by have := h2 s hs'; omega
    refine ⟨old', h3, h4, h5, ?_⟩
    simp only
    split
    · rename_i x r hx
      rw [hx] at hlast
      rcases hlast with h3 | ⟨_, _, h5⟩
      · exact Or.inl h3
      · rw [h5] at hl; cases hl
    · trivial

end PromqlVerif
