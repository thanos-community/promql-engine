/-
Facts about plan construction (`engOp`) alone: what it builds for a node once its children are
built, and the one class of error it can raise.
-/
import PromqlVerif.Proofs.Den
import PromqlVerif.Proofs.EvalEqns
import PromqlVerif.Proofs.ExceptOk
namespace PromqlVerif
open Val

variable {V : Type} [Val V]

/-! ### the tables

Lookups of strings in the tables are evaluated by the kernel (`decide +kernel`): the elaborator's own
evaluation of the same comparisons costs several times as much. -/

theorem not_scalarFn {table : List String} (ht : scalarFns.all (fun f => !table.contains f) = true) (fn : String)
    (h : table.contains fn = true) : scalarFns.contains fn = false := by
  cases hc : scalarFns.contains fn with
  | false => rfl
  | true =>
    have := List.all_eq_true.mp ht fn (List.contains_iff_mem.mp hc)
    rw [h] at this; cases this

theorem scalarFns_not_simple (fn : String) (h : simpleFns.contains fn = true) : scalarFns.contains fn = false :=
  not_scalarFn (by decide +kernel) fn h

theorem scalarFns_not_range (fn : String) (h : rangeFnNames.contains fn = true) : scalarFns.contains fn = false :=
  not_scalarFn (by decide +kernel) fn h

theorem accumulator_not_k {op : String} (hacc : engineAccumulators.contains op = true) :
    (op == "topk" || op == "bottomk") = false := by
  cases hc : (op == "topk" || op == "bottomk") with
  | false => rfl
  | true =>
    simp only [Bool.or_eq_true, beq_iff_eq] at hc
    rcases hc with rfl | rfl <;> (revert hacc; decide +kernel)

/-! ### what `engOp` does at a node, in terms of what it does at the children

Stated for the constructs whose equation in the definition carries side conditions (overlapping
`call` patterns, the literal under a step-invariant wrapper) or hides the operator under tests
that the tables or the typing of the operands decide. For the unary calls the equation is a `do`
block over the operands: read forwards it builds the node (`rw [engOp_scalar ha, ho]`), read
backwards through `bind_eq_ok` it takes a built node apart, and it carries an operand's error to
the node. Aggregations are stated for built operands, with `engOp_agg_ok` to get at the operand of a
built node. -/

section
variable {c : Ctx V} {a : Expr V} {o : OpSem V} {op : String}

theorem isMsel_of_engOp_ok (ho : engOp c a = .ok o) : isMsel a = false := by
  cases a with
  | msel s r => rw [engOp] at ho; cases ho
  | _ => rfl

/-- the literal under a step-invariant wrapper is no special case: pinning a constant operator
gives the same operator -/
theorem engOp_stepInv (c : Ctx V) (e : Expr V) :
    engOp c (.stepInv e) = engOp c e >>= fun o => pure { o with step := fun _ => o.step c.start } := by
  by_cases h : ∃ v, e = .num v
  · obtain ⟨v, rfl⟩ := h; rw [engOp, engOp]; rfl
  · rw [engOp]
    exact fun v hv => h ⟨v, hv⟩

theorem engOp_simple {fn : String} (hfn : simpleFns.contains fn = true) (hm : isMsel a = false) :
    engOp c (.call fn [a]) = engOp c a >>= fun o => pure
      { series := o.series.map Labels.dropName
        step := fun t => (o.step t).map fun xs => xs.map fun x => (x.1, applySimple fn x.2) } := by
  obtain ⟨h1, h2, h3⟩ := simpleFns_ne hfn
  rw [engOp, if_pos hfn]
  · exact isMsel_false_ne a hm
  · exact h1
  · exact h2
  · exact h3

theorem engOp_scalar (hm : isMsel a = false) :
    engOp c (.call "scalar" [a]) = engOp c a >>= fun o => pure
      { series := [[]]
        step := fun t => (o.step t).map fun xs =>
          match xs with
          | [x] => [(0, x.2)]
          | _ => [(0, nan)] } := by
  rw [engOp]
  · rfl
  · exact isMsel_false_ne a hm

theorem engOp_vector (hm : isMsel a = false) :
    engOp c (.call "vector" [a]) = engOp c a >>= fun o => pure { series := [[]], step := o.step } := by
  rw [engOp]
  exact isMsel_false_ne a hm

/-- over a (wrapped) selector `timestamp()` reads the selector in its timestamp mode; over anything
else it revalues the samples of its operand -/
theorem engOp_timestamp (hm : isMsel a = false) :
    engOp c (.call "timestamp" [a]) =
      match engTimestampSel c a with
      | some o => .ok { o with series := o.series.map Labels.dropName }
      | none => engOp c a >>= fun o => pure
        { series := o.series.map Labels.dropName
          step := fun t => (o.step t).map fun xs => xs.map fun x => (x.1, div (ofInt t) (ofInt 1000)) } := by
  rw [engOp]
  · rfl
  · exact isMsel_false_ne a hm

theorem engOp_timestamp_vsel (c : Ctx V) (s : VSel) :
    engOp c (.call "timestamp" [.vsel s]) =
      .ok { engSelector c s true with series := (engSelector c s true).series.map Labels.dropName } := by
  rw [engOp_timestamp rfl]
  rfl

theorem engOp_agg (w : Bool) (g : List String) (hacc : engineAccumulators.contains op = true)
    (ho : engOp c a = .ok o) : engOp c (.agg op w g a) = .ok (engAggregate op w g none o) := by
  rw [engOp, ho]
  simp only [bind, Except.bind, accumulator_not_k hacc, hacc, Bool.false_eq_true, if_false, Bool.not_true]
  rfl

theorem engOp_agg_ok {w : Bool} {g : List String} (h : engOp c (.agg op w g a) = .ok o) :
    ∃ child, engOp c a = .ok child ∧ o = engAggregate op w g none child := by
  rw [engOp] at h
  simp only [bind_eq_ok, ite_error_eq_ok, pure_eq_ok] at h
  obtain ⟨child, hch, -, -, rfl⟩ := h
  exact ⟨child, hch, rfl⟩

theorem engOp_aggP (w : Bool) (g : List String) {p : Expr V} {po : OpSem V}
    (hacc : engineAccumulators.contains op = true) (hp : engOp c p = .ok po) (ho : engOp c a = .ok o) :
    engOp c (.aggP op w g p a) = .ok (engAggregate op w g (some po) o) := by
  rw [engOp, ho, hp]
  simp only [bind, Except.bind, accumulator_not_k hacc, hacc, Bool.false_eq_true, if_false, Bool.not_true]
  rfl

/-! #### binary operators

The operator `engOp` builds for a binary node gets a name, by the static types of the operands
(`vsOp`, `ssOp`, `vvOp`; `binOp` for all of them), so that statements about it (TheoremB, PlanContract,
C05, C15) do not carry the record spelled out; `engOp_bin` says that `engOp` builds exactly these. -/

/-- the per-sample function of a vector-scalar operator: the engine's and the reference's -/
def vsFun (op : String) (bl scalarLeft : Bool) (s : V) (v : V) : Option V :=
  let (a, b) := if scalarLeft then (s, v) else (v, s)
  let (value, keep) := elemBinop op a b
  let value := if isComparison op && scalarLeft then b else value
  if bl then some (ofBool keep) else if keep then some value else none

theorem vectorScalarBinop_eq (op : String) (bl scalarLeft : Bool) (v : Vec V) (s : V) :
    vectorScalarBinop op bl v s scalarLeft =
      v.filterMap fun p => (vsFun op bl scalarLeft s p.2).map fun b =>
        ((fun ls => if dropsName op || bl then ls.dropName else ls) p.1, b) := by
  unfold vectorScalarBinop vsFun
  apply filterMap_congr'
  intro x _
  cases bl <;> cases scalarLeft <;> simp <;> split <;> simp_all

/-- the operator for `next op sc` (`scalarLeft = false`) or `sc op next` (`scalarLeft = true`) with
`sc` scalar-typed and `next` not -/
def vsOp (op : String) (bl scalarLeft : Bool) (next sc : OpSem V) : OpSem V :=
  { series := next.series.map fun ls => if dropsName op || bl then ls.dropName else ls
    step := fun t => do
      let xs ← next.step t
      let s ← scalarOf sc t
      pure (xs.filterMap fun x => (vsFun op bl scalarLeft s x.2).map fun b => (x.1, b)) }

def ssOp (op : String) (bl : Bool) (lo ro : OpSem V) : OpSem V :=
  { series := lo.series.map fun ls => if dropsName op || bl then ls.dropName else ls
    step := fun t => do
      let xs ← lo.step t
      let s ← scalarOf ro t
      pure (xs.map fun x => (x.1, if isComparison op then ofBool (compareOp op x.2 s) else arith op x.2 s)) }

/-- the operator between two vector-typed operands: the static join of their series lists (the
"many" side first) and the per-step table -/
def vvOp (op : String) (bl : Bool) (m : Matching) (lo ro : OpSem V) : OpSem V :=
  let j := engJoin m (!(dropsName op || bl)) (if m.card == .oneToMany then ro.series else lo.series)
    (if m.card == .oneToMany then lo.series else ro.series)
  { series := j.outputs
    step := fun t => do
      let a ← lo.step t
      let b ← ro.step t
      engVectorBinop op bl m.card j a b }

/-- the operator of a binary node, by the static types of its operands -/
def binOp (op : String) (bl : Bool) (m : Matching) (sl sr : Bool) (lo ro : OpSem V) : OpSem V :=
  match sl, sr with
  | true, true => ssOp op bl lo ro
  | true, false => vsOp op bl true ro lo
  | false, true => vsOp op bl false lo ro
  | false, false => vvOp op bl m lo ro

theorem engOp_bin (c : Ctx V) (op : String) (bl : Bool) (m : Matching) (l r : Expr V) :
    engOp c (.bin op bl m l r) = engOp c l >>= fun lo => engOp c r >>= fun ro =>
      if !engineBinOps.contains op then .error .unsupported
      else pure (binOp op bl m l.isScalar r.isScalar lo ro) := by
  rw [engOp]
  refine congrArg _ (funext fun lo => congrArg _ (funext fun ro => ?_))
  cases hop : engineBinOps.contains op
  · rfl
  · cases l.isScalar <;> cases r.isScalar <;>
      simp only [pure, Except.pure, Bool.not_true, Bool.not_false, Bool.false_eq_true, if_false, Bool.or_true,
        Bool.true_or, Bool.or_self, if_true, Bool.and_true, Bool.and_false, Bool.and_self, binOp, vsOp, vsFun, ssOp,
        vvOp, apply_ite (Option.map _), Option.map_some, Option.map_none, List.filterMap_eq_map']
    split <;> rfl

variable (bl : Bool) (m : Matching) {l r : Expr V} {lo ro : OpSem V}

theorem engOp_bin_vs (hop : engineBinOps.contains op = true) (scalarLeft : Bool) (hl : l.isScalar = scalarLeft)
    (hr : r.isScalar = !scalarLeft) (hlo : engOp c l = .ok lo) (hro : engOp c r = .ok ro) :
    engOp c (.bin op bl m l r) =
      .ok (vsOp op bl scalarLeft (bif scalarLeft then ro else lo) (bif scalarLeft then lo else ro)) := by
  rw [engOp_bin, hlo, hro, hl, hr, hop]
  cases scalarLeft <;> rfl

theorem engOp_bin_ss (hop : engineBinOps.contains op = true) (hl : l.isScalar = true) (hr : r.isScalar = true)
    (hlo : engOp c l = .ok lo) (hro : engOp c r = .ok ro) :
    engOp c (.bin op bl m l r) = .ok (ssOp op bl lo ro) := by
  rw [engOp_bin, hlo, hro, hl, hr, hop]
  rfl

theorem engOp_bin_vv (hop : engineBinOps.contains op = true) (hl : l.isScalar = false) (hr : r.isScalar = false)
    (hlo : engOp c l = .ok lo) (hro : engOp c r = .ok ro) :
    engOp c (.bin op bl m l r) = .ok (vvOp op bl m lo ro) := by
  rw [engOp_bin, hlo, hro, hl, hr, hop]
  rfl

/-- in a one-to-one match the left-hand operand is the "many" side -/
theorem vvOp_oneToOne (hc : m.card = .oneToOne) :
    vvOp op bl m lo ro =
      { series := (engJoin m (!(dropsName op || bl)) lo.series ro.series).outputs
        step := fun t => do
          let a ← lo.step t
          let b ← ro.step t
          engVectorBinop op bl .oneToOne (engJoin m (!(dropsName op || bl)) lo.series ro.series) a b } := by
  rw [vvOp, hc]
  rfl

end

/-- **Plan construction fails only with "unsupported"** - the class that routes a query to the
fallback engine. By functional induction over `engOp` (= `newOperator`): every argument
position is covered, so an unsupported node anywhere makes the whole construction fail
with that class and nothing else. -/
theorem engOp_err (c : Ctx V) (e : Expr V) : ∀ er, engOp c e = .error er → er = .unsupported := by
  suffices h : Post (· = .unsupported) (fun _ => True) (engOp c e) from fun _ => h.of_error
  -- Every alternative of `engOp` is put together from successes, `unsupported` and the recursive
  -- calls by bind and if-then-else. The cases are numbered in the order of the definition.
  fun_induction engOp c e
  case case13 ih => exact ih.bind fun _ _ => .ite rfl (.ite rfl trivial)
  case case14 ihe ihp => exact ihe.bind fun _ _ => ihp.bind fun _ _ => .ite trivial (.ite rfl trivial)
  case case15 ihl ihr => exact ihl.bind fun _ _ => ihr.bind fun _ _ => .ite rfl (.ite trivial trivial)
  case case25 iha ihlo ihhi => exact iha.bind fun _ _ => ihlo.bind fun _ _ => ihhi.bind fun _ _ => trivial
  case case16 | case26 | case27 => rename_i ih1 ih2; exact ih1.bind fun _ _ => ih2.bind fun _ _ => trivial
  case case11 | case12 | case22 | case23 | case24 | case28 => rename_i ih; exact ih.bind fun _ _ => trivial
  case case8 | case9 => assumption
  case case2 | case4 | case5 | case6 | case7 | case20 | case29 | case30 => exact rfl
  all_goals exact trivial

end PromqlVerif
