/-
An operator's step vector read through its series list (`denote`, `OpSem.den`): how `denote`
commutes with what operators do to a vector in place (`denote_map`, `denote_filterMap`), what it is
when the IDs index the list (`denote_eq_map_of_valid`), and the two leaves, selector and range
function, as the reference's selections (`engSelector_den`, `engRangeFn_den`).
-/
import PromqlVerif.Eng
import PromqlVerif.Ops
import PromqlVerif.Proofs.ListLemmas
import PromqlVerif.Proofs.Enum
namespace PromqlVerif
open Val

variable {V : Type} [Val V]

/-- what an operator yields at step `t`, read through its series list -/
def OpSem.den (o : OpSem V) (t : Int) : Except Err (Vec V) := (o.step t).map (denote o.series)

/-- an operator that numbers the list `ms` itself and emits per member, read through the members'
labels `f`: the emissions, member by member. Both leaves rest on it. -/
theorem denote_enum {α β γ : Type} (ms : List γ) (f : γ → α) (g : γ → Option β) :
    denote (ms.map f) ((enum ms).filterMap fun (p : Nat × γ) => (g p.2).map fun b => (p.1, b))
      = ms.filterMap fun x => (g x).map fun b => (f x, b) := by
  conv => rhs; rw [← enum_snd ms, List.filterMap_map]
  unfold denote
  rw [List.filterMap_filterMap]
  apply filterMap_congr'
  intro p hp
  have := (mem_enum_iff_getElem? ms p).mp hp
  cases hg : g p.2 <;> simp [this, hg]

theorem denote_filterMap {α α' β β' : Type} (S : List α) (h : α → α') (g : β → Option β') (v : List (Nat × β)) :
    denote (S.map h) (v.filterMap fun x => (g x.2).map fun b => (x.1, b))
      = (denote S v).filterMap fun p => (g p.2).map fun b => (h p.1, b) := by
  unfold denote
  rw [List.filterMap_filterMap, List.filterMap_filterMap]
  apply filterMap_congr'
  intro x _
  simp only [List.getElem?_map]
  cases hg : g x.2 <;> cases hs : S[x.1]? <;> simp [Option.bind, hg, hs]

theorem denote_map {α α' β β' : Type} (S : List α) (h : α → α') (g : β → β') (v : List (Nat × β)) :
    denote (S.map h) (v.map fun x => (x.1, g x.2)) = (denote S v).map fun p => (h p.1, g p.2) := by
  simpa only [Option.map_some, List.filterMap_eq_map'] using denote_filterMap S h (fun b => some (g b)) v

def lab (S : List Labels) (x : Nat × V) : Labels := S.getD x.1 []

omit [Val V] in
theorem lab_eq_getElem (S : List Labels) (x : Nat × V) (h : x.1 < S.length) : lab S x = S[x.1] :=
  (List.getElem_eq_getD []).symm

omit [Val V] in
theorem denote_eq_map_of_valid (S : List Labels) (xs : IdVec V) (h : ∀ x ∈ xs, x.1 < S.length) :
    denote S xs = xs.map fun x => (lab S x, x.2) := by
  unfold denote lab
  rw [← List.filterMap_eq_map']
  apply filterMap_congr'
  intro x hx
  simp [List.getElem?_eq_getElem (h x hx)]

omit [Val V] in
theorem denote_values_of_valid (S : List Labels) (xs : IdVec V) (h : ∀ x ∈ xs, x.1 < S.length) :
    (denote S xs).map (·.2) = xs.map (·.2) := by
  rw [denote_eq_map_of_valid S xs h, List.map_map]
  rfl

/-- an emission per position of a series list that depends only on the series at the position,
read through the list, is the emission per series -/
theorem denote_range_filterMap {α β : Type} (K : List α) (F : Nat → Option (Nat × β)) (H : α → Option (α × β))
    (h : ∀ g (hg : g < K.length), ((F g).bind fun x => (K[x.1]?).map fun s => (s, x.2)) = H K[g]) :
    denote K ((List.range K.length).filterMap F) = K.filterMap H := by
  unfold denote
  rw [List.filterMap_filterMap, ← filterMap_range_getElem? K H]
  apply filterMap_congr'
  intro g hg
  have hg := List.mem_range.mp hg
  rw [h g hg, List.getElem?_eq_getElem hg, Option.bind_some]

/-- the selector operator in either mode (values, or the samples' own timestamps for `timestamp()`),
read through its series list relabelled by `h`: the reference selection, entry by entry -/
theorem engSelector_denote (c : Ctx V) (s : VSel) (ts : Bool) (h : Labels → Labels) (t : Int) (xs : IdVec V)
    (hxs : (engSelector c s ts).step t = .ok xs) :
    denote ((engSelector c s ts).series.map h) xs =
      (selectT c s (s.refTime c.start t)).map fun x =>
        (h x.1, if ts then div (ofInt x.2.1) (ofInt 1000) else x.2.2) := by
  cases hxs
  have := denote_enum (matchingSeries c s) (fun sr => h sr.labels)
    (fun sr => (selectSample c.lookback (s.refTime c.start t) sr.samples).map fun p =>
      if ts then div (ofInt p.1) (ofInt 1000) else p.2)
  rw [selectT, List.map_filterMap, engSelector, List.map_map]
  simp only [Option.map_map, Function.comp_def] at this ⊢
  exact this

/-- **C02 (semantic half): the engine's vector selector is the reference selection.** For every
storage, matcher set, lookback, offset / @ and step time, the selector operator read through
its series list is exactly `selectV`. -/
theorem engSelector_den (c : Ctx V) (s : VSel) (t : Int) :
    (engSelector c s false).den t = .ok (selectV c s t) := by
  have := engSelector_denote c s false id t _ rfl
  rw [List.map_id] at this
  exact congrArg Except.ok this

theorem engRangeFn_den (c : Ctx V) (fn : String) (s : VSel) (range t : Int) :
    (engRangeFn c fn s range).den t = .ok (evalRangeFn c fn s range t) := by
  unfold OpSem.den engRangeFn evalRangeFn
  simp only [Except.map, VSel.refTime]
  have := denote_enum (matchingSeries c s)
    (fun sr => if fn == "last_over_time" then sr.labels else sr.labels.dropName)
    (fun sr => rangeKernel fn (windowPoints (t - s.offsetAt c.start - range) (t - s.offsetAt c.start) sr.samples)
      (t - s.offsetAt c.start - range) (t - s.offsetAt c.start) (rangeSeconds range : V))
  simpa using this

end PromqlVerif
