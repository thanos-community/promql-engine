/-
The laws of a strict weak order for `lt`, and the order `less` it gives in either direction: what the
heap of topk / bottomk, the push-down of max / min and the NaN-first sort are proved under.
-/
import PromqlVerif.Val
namespace PromqlVerif
open Val

variable {V : Type} [Val V]

/-- the strict weak order laws of `lt`, on the values that occur -/
structure LtLaws (P : V → Prop) : Prop where
  asymm : ∀ a b, P a → P b → lt a b = true → lt b a = false
  negtrans : ∀ a b c, P a → P b → P c → lt a b = false → lt b c = false → lt a c = false

/-- `lt` in the direction of `top`: the order of the topk heap (`top = true`) or of the bottomk heap -/
def less (top : Bool) (a b : V) : Bool := if top then lt a b else lt b a

section laws
variable {P : V → Prop} (L : LtLaws P) (top : Bool)
include L

theorem less_asymm (a b : V) (ha : P a) (hb : P b) (h : less top a b = true) : less top b a = false := by
  cases top
  · exact L.asymm b a hb ha h
  · exact L.asymm a b ha hb h

/-- "not less" is transitive: read `less top a b = false` as `b ≤ a` -/
theorem less_negtrans (a b c : V) (ha : P a) (hb : P b) (hc : P c) (h1 : less top a b = false)
    (h2 : less top b c = false) : less top a c = false := by
  cases top
  · exact L.negtrans c b a hc hb ha h2 h1
  · exact L.negtrans a b c ha hb hc h1 h2

theorem less_irrefl (a : V) (ha : P a) : less top a a = false := by
  cases h : less top a a with
  | false => rfl
  | true => rw [← h]; exact less_asymm L top a a ha ha h

theorem less_trans (a b c : V) (ha : P a) (hb : P b) (hc : P c) (h1 : less top a b = true)
    (h2 : less top b c = true) : less top a c = true := by
  cases h : less top a c with
  | true => rfl
  | false => rw [less_negtrans L top a c b ha hc hb h (less_asymm L top b c hb hc h2)] at h1; exact h1

end laws

end PromqlVerif
