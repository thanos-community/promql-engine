/-
What `engJoin` builds when no two series of a side share a match key (one-to-one matching, no
include labels): every left-hand series with a partner gets its own output, labelled with the
series' result labels; the partner's table entry is exactly that output; nothing else is entered.
This discharges the hypotheses `JTables` / `Partners` of `Proofs/JoinPos.lean`.
-/
import PromqlVerif.Proofs.Contract
import PromqlVerif.Proofs.JoinPos
import PromqlVerif.Proofs.Enum
namespace PromqlVerif
open Val

variable {V : Type} [Val V]

section tables
variable (m : Matching) (keepName : Bool) (high low : List Labels)

/-- match key and output labels of a series -/
def kOf (ls : Labels) : Labels := (engSignature m keepName ls).1
def oOf (ls : Labels) : Labels := (engSignature m keepName ls).2

/-- the invariant of `engJoin`'s loop over the buckets, `done` being the keys processed so far -/
structure JInv (pmInv : Nat → Option Nat) (done : List Labels) (j : Join) : Prop where
  len_hi : j.highIdx.length = high.length
  len_lo : j.lowIdx.length = low.length
  hi_sound : ∀ i o, j.highIdx.getD i none = some o →
    o < j.outputs.length ∧ j.outputs.getD o [] = oOf m keepName (high.getD i []) ∧
      kOf m keepName (high.getD i []) ∈ done ∧ i < high.length
  hi_fresh : ∀ i, kOf m keepName (high.getD i []) ∉ done → j.highIdx.getD i none = none
  lo_done : ∀ l, l < low.length → kOf m keepName (low.getD l []) ∈ done →
    match pmInv l with
    | some i => ∃ o, j.highIdx.getD i none = some o ∧ j.lowIdx.getD l [] = [o]
    | none => j.lowIdx.getD l [] = []
  lo_fresh : ∀ l, kOf m keepName (low.getD l []) ∉ done → j.lowIdx.getD l [] = []

/-- the two sides' keys are unique, and `pmInv` is the partner map they determine -/
structure KeyFacts (pmInv : Nat → Option Nat) : Prop where
  uh : ∀ i i', i < high.length → i' < high.length →
    kOf m keepName (high.getD i []) = kOf m keepName (high.getD i' []) → i = i'
  ul : ∀ l l', l < low.length → l' < low.length →
    kOf m keepName (low.getD l []) = kOf m keepName (low.getD l' []) → l = l'
  p_sound : ∀ l i, pmInv l = some i → i < high.length ∧ l < low.length ∧
    kOf m keepName (high.getD i []) = kOf m keepName (low.getD l [])
  p_complete : ∀ l i, i < high.length → l < low.length →
    kOf m keepName (high.getD i []) = kOf m keepName (low.getD l []) → pmInv l = some i

theorem jinv_skip (pmInv : Nat → Option Nat) (done : List Labels) (j : Join) (key : Labels)
    (hinv : JInv m keepName high low pmInv done j) (hfresh : key ∉ done)
    (hnone : ∀ l, l < low.length → kOf m keepName (low.getD l []) = key → pmInv l = none) :
    JInv m keepName high low pmInv (done ++ [key]) j := by
  refine ⟨hinv.len_hi, hinv.len_lo, fun i o h => ?_, fun i h => ?_, fun l hl h => ?_, fun l h => ?_⟩
  · obtain ⟨h1, h2, h3, h4⟩ := hinv.hi_sound i o h
    exact ⟨h1, h2, List.mem_append_left _ h3, h4⟩
  · exact hinv.hi_fresh i fun hd => h (List.mem_append_left _ hd)
  · rcases List.mem_append.mp h with hd | hk
    · exact hinv.lo_done l hl hd
    · have hk := List.mem_singleton.mp hk
      rw [hnone l hl hk]
      exact hinv.lo_fresh l (hk ▸ hfresh)
  · exact hinv.lo_fresh l fun hd => h (List.mem_append_left _ hd)

/-- a bucket with one series on each side: one new output, entered in both tables -/
theorem jinv_assign (pmInv : Nat → Option Nat) (hk : KeyFacts m keepName high low pmInv)
    (done : List Labels) (j : Join) (key : Labels) (hinv : JInv m keepName high low pmInv done j)
    (hfresh : key ∉ done) (n l0 : Nat) (hn : n < high.length) (hl0 : l0 < low.length)
    (hkn : kOf m keepName (high.getD n []) = key) (hkl : kOf m keepName (low.getD l0 []) = key) :
    JInv m keepName high low pmInv (done ++ [key])
      { outputs := j.outputs ++ [oOf m keepName (high.getD n [])]
        highIdx := j.highIdx.set n (some j.outputs.length)
        lowIdx := j.lowIdx.set l0 (j.lowIdx.getD l0 [] ++ [j.outputs.length]) } := by
  have hpm : pmInv l0 = some n := hk.p_complete l0 n hn hl0 (by rw [hkn, hkl])
  have hlow0 : j.lowIdx.getD l0 [] = [] := hinv.lo_fresh l0 (by rw [hkl]; exact hfresh)
  have hkey : ∀ {a}, a = key → a ∈ done ++ [key] := fun h => List.mem_append_right _ (List.mem_singleton.mpr h)
  have hhi := fun i => getD_set_cases j.highIdx n i (some j.outputs.length) none (hinv.len_hi ▸ hn)
  have hlo := fun l => getD_set_cases j.lowIdx l0 l (j.lowIdx.getD l0 [] ++ [j.outputs.length]) [] (hinv.len_lo ▸ hl0)
  refine ⟨by simp [hinv.len_hi], by simp [hinv.len_lo], fun i o h => ?_, fun i h => ?_, fun l hl h => ?_, fun l h => ?_⟩
  · simp only at h ⊢
    rcases hhi i with ⟨rfl, e⟩ | ⟨-, e⟩ <;> rw [e] at h
    · cases h
      exact ⟨by simp, getD_append_length _ _ _, hkey hkn, hn⟩
    · obtain ⟨h1, h2, h3, h4⟩ := hinv.hi_sound i o h
      exact ⟨by simp; omega, by rw [getD_append_left _ _ _ _ h1]; exact h2, List.mem_append_left _ h3, h4⟩
  · rcases hhi i with ⟨rfl, -⟩ | ⟨-, e⟩
    · exact absurd (hkey hkn) h
    · exact e.trans (hinv.hi_fresh i fun hd => h (List.mem_append_left _ hd))
  · simp only
    rcases hlo l with ⟨rfl, e⟩ | ⟨hll, e⟩ <;> rw [e]
    · rw [hpm]
      exact ⟨j.outputs.length, (hhi n).elim (·.2) fun h => absurd rfl h.1, by rw [hlow0]; rfl⟩
    · -- another right-hand series: its key is not `key`, so neither is its partner's
      have hkne : kOf m keepName (low.getD l []) ≠ key := fun he => hll (hk.ul l0 l hl0 hl (by rw [hkl, he]))
      have := hinv.lo_done l hl ((List.mem_append.mp h).resolve_right fun h' => hkne (List.mem_singleton.mp h'))
      cases hp : pmInv l with
      | none => rw [hp] at this; exact this
      | some i =>
        rw [hp] at this
        obtain ⟨o, ho, hlo'⟩ := this
        rcases hhi i with ⟨rfl, -⟩ | ⟨-, e'⟩
        · exact absurd ((hk.p_sound l n hp).2.2.symm.trans hkn) hkne
        · exact ⟨o, e'.trans ho, hlo'⟩
  · rcases hlo l with ⟨rfl, -⟩ | ⟨-, e⟩
    · exact absurd (hkey hkl) h
    · exact e.trans (hinv.lo_fresh l fun hd => h (List.mem_append_left _ hd))

/-- the indexed signatures of a side, as `engJoin` computes them -/
abbrev sigsOf (S : List Labels) : List (Nat × Labels × Labels) :=
  (enum S).map fun (i, ls) => (i, engSignature m keepName ls)

theorem mem_sigs (S : List Labels) (e : Nat × Labels × Labels) :
    e ∈ sigsOf m keepName S
      ↔ e.1 < S.length ∧ e.2 = engSignature m keepName (S.getD e.1 []) := by
  rw [List.mem_map]
  constructor
  · rintro ⟨⟨i, ls⟩, hp, rfl⟩
    obtain ⟨h, hp⟩ := (mem_enum S [] (i, ls)).mp hp
    exact ⟨h, congrArg (engSignature m keepName) hp⟩
  · rintro ⟨h, he⟩
    exact ⟨(e.1, S.getD e.1 []), (mem_enum S [] _).mpr ⟨h, rfl⟩, Prod.ext rfl he.symm⟩

theorem bucket_cases (S : List Labels)
    (hU : ∀ i i', i < S.length → i' < S.length →
      kOf m keepName (S.getD i []) = kOf m keepName (S.getD i' []) → i = i') (key : Labels) :
    ((sigsOf m keepName S).filter (·.2.1 == key) = [] ∧
        ∀ i, i < S.length → kOf m keepName (S.getD i []) ≠ key) ∨
      ∃ i, i < S.length ∧ kOf m keepName (S.getD i []) = key ∧
        (sigsOf m keepName S).filter (·.2.1 == key) = [(i, engSignature m keepName (S.getD i []))] := by
  have hmem : ∀ e, e ∈ (sigsOf m keepName S).filter (·.2.1 == key) ↔
      e.1 < S.length ∧ e.2 = engSignature m keepName (S.getD e.1 []) ∧ e.2.1 = key := by
    intro e
    rw [List.mem_filter, mem_sigs, beq_iff_eq, and_assoc]
  have hnd : (((sigsOf m keepName S).filter (·.2.1 == key)).map (·.1)).Nodup := by
    refine List.Nodup.sublist (List.filter_sublist.map _) ?_
    rw [List.map_map]
    show ((enum S).map (·.1)).Nodup
    rw [enum_fst]
    exact List.nodup_range
  generalize (sigsOf m keepName S).filter (·.2.1 == key) = B at hmem hnd
  match B, hmem, hnd with
  | [], hmem, _ => exact .inl ⟨rfl, fun i hi hk => nomatch (hmem (i, _)).mpr ⟨hi, rfl, hk⟩⟩
  | [e], hmem, _ =>
    obtain ⟨h1, h2, h3⟩ := (hmem e).mp List.mem_cons_self
    exact .inr ⟨e.1, h1, by rw [kOf, ← h2]; exact h3, by rw [← h2]⟩
  | e :: e' :: _, hmem, hnd =>
    obtain ⟨h1, h2, h3⟩ := (hmem e).mp List.mem_cons_self
    obtain ⟨h1', h2', h3'⟩ := (hmem e').mp (List.mem_cons_of_mem _ List.mem_cons_self)
    have := hU e.1 e'.1 h1 h1' (by rw [kOf, kOf, ← h2, ← h2', h3, h3'])
    simp [this] at hnd

/-- **what `engJoin` builds under unique match keys** (no include labels): the invariant holds at
the end, for a `done` that is exactly the set of left-hand keys -/
theorem engJoin_inv (hincl : m.incl = []) (pmInv : Nat → Option Nat) (hk : KeyFacts m keepName high low pmInv) :
    ∃ done, (∀ a, a ∈ done ↔ a ∈ high.map (kOf m keepName)) ∧
      JInv m keepName high low pmInv done (engJoin m keepName high low) := by
  have hkeys : (sigsOf m keepName high).map (·.2.1) = high.map (kOf m keepName) := by
    rw [← congrArg (List.map (kOf m keepName)) (enum_snd high), List.map_map, List.map_map]
    rfl
  have hnd : (high.map (kOf m keepName)).Nodup := by
    refine List.pairwise_iff_getElem.mpr fun i i' hi hi' hlt he => ?_
    rw [List.length_map] at hi hi'
    have := hk.uh i i' hi hi' (by simpa [hi, hi'] using he)
    omega
  have hinit : JInv m keepName high low pmInv [] ⟨[], high.map (fun _ => none), low.map (fun _ => [])⟩ :=
    ⟨by simp, by simp, fun i o h => (by rw [getD_map_const] at h; cases h), fun i _ => getD_map_const ..,
      fun l _ h => (nomatch h), fun l _ => getD_map_const ..⟩
  refine ⟨high.map (kOf m keepName), fun _ => Iff.rfl, ?_⟩
  unfold engJoin
  simp only
  rw [hkeys, eraseDups_of_nodup _ hnd]
  refine foldl_prefix_inv (JInv m keepName high low pmInv) _ _ _ hinit ?_
  intro done key suf j hsplit hinv
  have hfresh : key ∉ done := by
    rw [hsplit] at hnd
    exact fun h => (List.nodup_append.mp hnd).2.2 key h key List.mem_cons_self rfl
  rcases bucket_cases m keepName low hk.ul key with ⟨hB, hnone⟩ | ⟨l0, hl0, hkl, hB⟩
  · -- no right-hand series has this key
    simp only [hB]
    exact jinv_skip m keepName high low pmInv done j key hinv hfresh fun l hl hkl => absurd hkl (hnone l hl)
  · simp only [hB]
    rcases bucket_cases m keepName high hk.uh key with ⟨hF, hnoneH⟩ | ⟨n, hn, hkn, hF⟩
    · -- does not arise (`key` is the key of a left-hand series), and skipping is right
      simp only [hF, List.foldl_nil]
      refine jinv_skip m keepName high low pmInv done j key hinv hfresh fun l hl hkl => ?_
      cases hp : pmInv l with
      | none => rfl
      | some i =>
        obtain ⟨hi, _, hki⟩ := hk.p_sound l i hp
        exact absurd (hki.trans hkl) (hnoneH i hi)
    · -- one series on each side
      simp only [hF, List.foldl_cons, List.foldl_nil, hincl, List.isEmpty_nil, if_true, List.append_nil]
      exact jinv_assign m keepName high low pmInv hk done j key hinv hfresh n l0 hn hl0 hkn hkl

theorem engJoin_tables (hincl : m.incl = []) (pmInv : Nat → Option Nat) (hk : KeyFacts m keepName high low pmInv) :
    JTables (engJoin m keepName high low) high (oOf m keepName) pmInv := by
  obtain ⟨done, hd, hinv⟩ := engJoin_inv m keepName high low hincl pmInv hk
  have hok := engJoin_ok m keepName high low
  refine ⟨fun i i' o h1 h2 => hok.hi_inj i i' o ((getD_none_eq_some _ i o).mp h1) ((getD_none_eq_some _ i' o).mp h2),
    fun i o h => (hinv.hi_sound i o h).1, fun i o h => (hinv.hi_sound i o h).2.1, ?_, ?_, ?_⟩
  · intro l i hp
    obtain ⟨hi, hl, hkk⟩ := hk.p_sound l i hp
    have hmem : kOf m keepName (low.getD l []) ∈ done := by
      rw [hd, ← hkk]
      exact List.mem_map_of_mem (List.getElem_eq_getD [] ▸ List.getElem_mem hi)
    have := hinv.lo_done l hl hmem
    rw [hp] at this
    exact this
  · intro l hp
    by_cases hl : l < low.length
    · by_cases hmem : kOf m keepName (low.getD l []) ∈ done
      · have := hinv.lo_done l hl hmem
        rw [hp] at this
        exact this
      · exact hinv.lo_fresh l hmem
    · rw [List.getD_eq_getElem?_getD, List.getElem?_eq_none (by rw [hinv.len_lo]; omega)]
      rfl
  · intro l l' i h1 h2
    obtain ⟨_, hl, hk1⟩ := hk.p_sound l i h1
    obtain ⟨_, hl', hk2⟩ := hk.p_sound l' i h2
    exact hk.ul l l' hl hl' (by rw [← hk1, ← hk2])

theorem kOf_eq_sig (ls : Labels) : kOf m keepName ls = sigLabels m ls := by
  unfold kOf engSignature sigLabels
  cases m.on <;> simp

/-- the engine's output labels of a one-to-one match without include labels are the reference's
result metric -/
theorem oOf_eq_resultMetric (op : String) (bool : Bool) (hc : m.card = .oneToOne) (hincl : m.incl = [])
    (h lw : Labels) : oOf m (!(dropsName op || bool)) h = resultMetric op bool m h lw := by
  unfold oOf engSignature resultMetric
  simp only [hc, hincl, List.foldl_nil, show (Card.oneToOne != Card.oneToOne) = false from rfl,
    show (Card.oneToOne == Card.oneToOne) = true from rfl, Bool.false_eq_true, if_false, if_true]
  cases hon : m.on <;> cases hd : dropsName op <;> cases bool <;>
    simp only [Labels.keep, Labels.del, Labels.dropName, List.filter_filter, Bool.or_false, Bool.or_true, Bool.not_false,
      Bool.not_true, Bool.false_eq_true, if_false, if_true] <;>
    (apply List.filter_congr
     intro a _
     simp only [List.contains_append, List.contains_cons, List.contains_nil, Bool.or_false, bne, Bool.not_or]
     cases m.labels.contains a.name <;> cases (a.name == metricName) <;> rfl)

end tables

theorem exists_partial_fun (r : Nat → Nat → Prop) (h : ∀ i l l', r i l → r i l' → l = l') :
    ∃ f : Nat → Option Nat, ∀ i l, f i = some l ↔ r i l := by
  refine Classical.axiomOfChoice (r := fun i (o : Option Nat) => ∀ l, o = some l ↔ r i l) fun i => ?_
  by_cases hex : ∃ l, r i l
  · obtain ⟨l0, h0⟩ := hex
    exact ⟨some l0, fun l => ⟨fun he => Option.some.inj he ▸ h0, fun hr => congrArg some (h i l0 l h0 hr)⟩⟩
  · exact ⟨none, fun l => ⟨nofun, fun hr => (hex ⟨l, hr⟩).elim⟩⟩

theorem engVectorBinop_unique_keys (op : String) (bool : Bool) (m : Matching)
    (hc : m.card = .oneToOne) (hincl : m.incl = []) (H Lw : List Labels)
    (hH : ∀ i i', i < H.length → i' < H.length → sigLabels m (H.getD i []) = sigLabels m (H.getD i' []) → i = i')
    (hL : ∀ l l', l < Lw.length → l' < Lw.length → sigLabels m (Lw.getD l []) = sigLabels m (Lw.getD l' []) → l = l')
    (lhs rhs : IdVec V) (hlv : ∀ x ∈ lhs, x.1 < H.length) (hrv : ∀ y ∈ rhs, y.1 < Lw.length)
    (hl : (lhs.map (·.1)).Pairwise (· ≠ ·)) (hr : (rhs.map (·.1)).Pairwise (· ≠ ·)) :
    let j := engJoin m (!(dropsName op || bool)) H Lw
    ∃ eng ref, (engVectorBinop op bool .oneToOne j lhs rhs).map (denote j.outputs) = .ok eng ∧
      vectorBinop op bool m (denote H lhs) (denote Lw rhs) = .ok ref ∧ eng.Perm ref := by
  intro j
  let kn := !(dropsName op || bool)
  -- the partner maps the unique keys determine
  let r : Nat → Nat → Prop := fun i l =>
    i < H.length ∧ l < Lw.length ∧ sigLabels m (H.getD i []) = sigLabels m (Lw.getD l [])
  obtain ⟨pm, hpm⟩ := exists_partial_fun r fun i l l' h h' => hL l l' h.2.1 h'.2.1 (h.2.2.symm.trans h'.2.2)
  obtain ⟨pmInv, hpmInv⟩ := exists_partial_fun (fun l i => r i l)
    fun l i i' h h' => hH i i' h.1 h'.1 (h.2.2.trans h'.2.2.symm)
  have hkf : KeyFacts m kn H Lw pmInv := by
    refine ⟨?_, ?_, ?_, ?_⟩ <;> simp only [kOf_eq_sig]
    · exact hH
    · exact hL
    · exact fun l i h => (hpmInv l i).mp h
    · exact fun l i hi hl hk => (hpmInv l i).mpr ⟨hi, hl, hk⟩
  have hpart : Partners (sigLabels m) H Lw pm pmInv :=
    ⟨fun i l => (hpm i l).trans (hpmInv l i).symm,
     fun i l h => let ⟨h1, h2, h3⟩ := (hpm i l).mp h; ⟨h3, h1, h2⟩,
     fun i l hi hl hk => (hpm i l).mpr ⟨hi, hl, hk⟩⟩
  exact step_agrees op bool m hc j H Lw (oOf m kn) pm pmInv
    (engJoin_tables m kn H Lw hincl pmInv hkf) hpart
    (fun h lw => oOf_eq_resultMetric m op bool hc hincl h lw) hH hL lhs rhs hlv hrv hl hr

end PromqlVerif
