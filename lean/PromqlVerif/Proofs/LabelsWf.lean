/-
Label-set well-formedness (sorted by name, no repeated name, no empty value), operator by operator:
an operator's series have well-formed labels if its children's have. The induction over the plan
is in `Proofs/PlanContract.lean`.
-/
import PromqlVerif.Proofs.Contract
namespace PromqlVerif
open Val

variable {V : Type} [Val V]

/-- strictly sorted by name: every earlier name is below every later one, not only the next -/
theorem sortedBy_iff (ls : Labels) : Labels.sortedBy ls = true ↔ ls.Pairwise (fun a b => a.name < b.name) := by
  induction ls with
  | nil => simp [Labels.sortedBy]
  | cons x xs ih =>
    cases xs with
    | nil => simp [Labels.sortedBy]
    | cons y rest =>
      rw [Labels.sortedBy, Bool.and_eq_true, decide_eq_true_iff, ih, List.pairwise_cons (a := x)]
      refine ⟨fun ⟨hxy, hp⟩ => ⟨fun z hz => ?_, hp⟩, fun ⟨h1, hp⟩ => ⟨h1 y (List.mem_cons_self ..), hp⟩⟩
      rcases List.mem_cons.mp hz with rfl | hz
      · exact hxy
      · exact String.lt_trans hxy ((List.pairwise_cons.mp hp).1 z hz)

theorem wf_of_sublist {ls ls' : Labels} (hs : ls'.Sublist ls) (h : Labels.wf ls = true) : Labels.wf ls' = true := by
  simp only [Labels.wf, Bool.and_eq_true, List.all_eq_true] at h ⊢
  exact ⟨(sortedBy_iff _).mpr (((sortedBy_iff ls).mp h.1).sublist hs), fun l hl => h.2 l (hs.subset hl)⟩

theorem wf_filter (p : Label → Bool) (ls : Labels) (h : ls.wf = true) : Labels.wf (ls.filter p) = true :=
  wf_of_sublist List.filter_sublist h

theorem dropName_wf (ls : Labels) (h : ls.wf = true) : ls.dropName.wf = true := wf_filter _ ls h
theorem keep_wf (ls : Labels) (g : List String) (h : ls.wf = true) : (ls.keep g).wf = true := wf_filter _ ls h
theorem del_wf (ls : Labels) (g : List String) (h : ls.wf = true) : (ls.del g).wf = true := wf_filter _ ls h

theorem wf_ite {c : Prop} [Decidable c] {a b : Labels} (ha : Labels.wf a = true) (hb : Labels.wf b = true) :
    Labels.wf (if c then a else b) = true := by
  split
  · exact ha
  · exact hb

theorem groupLabels_wf (w : Bool) (g : List String) (ls : Labels) (h : ls.wf = true) : (groupLabels w g ls).wf = true := by
  unfold groupLabels
  exact wf_ite (dropName_wf _ (del_wf ls g h)) (keep_wf ls g h)

def LabelsOk (o : OpSem V) : Prop := ∀ ls ∈ o.series, Labels.wf ls = true

theorem wf_nil : Labels.wf [] = true := rfl

omit [Val V] in
theorem labelsOk_unit (step : Int → Except Err (IdVec V)) : LabelsOk { series := [[]], step := step } := by
  intro ls h
  simp only [List.mem_singleton] at h
  subst h; rfl

omit [Val V] in
theorem labelsOk_map (o : OpSem V) (f : Labels → Labels) (step : Int → Except Err (IdVec V))
    (hf : ∀ ls, Labels.wf ls = true → Labels.wf (f ls) = true) (h : LabelsOk o) :
    LabelsOk { series := o.series.map f, step := step } := by
  intro ls hl
  obtain ⟨l0, h0, rfl⟩ := List.mem_map.mp hl
  exact hf l0 (h l0 h0)

theorem labelsOk_selector (c : Ctx V) (hst : ∀ sr ∈ c.st, Labels.wf sr.labels = true) (s : VSel) (ts : Bool) :
    LabelsOk (engSelector c s ts) := by
  intro ls hl
  simp only [engSelector, List.mem_map] at hl
  obtain ⟨sr, hsr, rfl⟩ := hl
  exact hst sr (List.mem_filter.mp hsr).1

theorem labelsOk_rangefn (c : Ctx V) (hst : ∀ sr ∈ c.st, Labels.wf sr.labels = true) (fn : String) (s : VSel)
    (r : Int) : LabelsOk (engRangeFn c fn s r) := by
  intro ls hl
  simp only [engRangeFn, List.mem_map] at hl
  obtain ⟨sr, hsr, rfl⟩ := hl
  have := hst sr (List.mem_filter.mp hsr).1
  exact wf_ite this (dropName_wf _ this)

theorem labelsOk_aggregate (op : String) (w : Bool) (g : List String) (param : Option (OpSem V)) (child : OpSem V)
    (h : LabelsOk child) : LabelsOk (engAggregate op w g param child) := by
  unfold engAggregate
  split
  · exact labelsOk_unit _
  · intro ls hl
    simp only [staticGroups, List.mem_map] at hl
    obtain ⟨k, _, rfl⟩ := hl
    split
    · rename_i l0 hf
      exact groupLabels_wf w g l0 (h l0 (List.mem_of_find?_eq_some hf))
    · rfl

theorem labelsOk_kaggregate (top w : Bool) (g : List String) (param child : OpSem V) (h : LabelsOk child) :
    LabelsOk (engKAggregate top w g param child) := by
  intro ls hl
  exact h ls hl

theorem labelsOk_histogram (c : Ctx V) (q child : OpSem V) (h : LabelsOk child) : LabelsOk (engHistogram c q child) := by
  intro ls hl
  simp only [engHistogram] at hl
  have hm := List.mem_eraseDups.mp hl
  obtain ⟨x, hx, hx2⟩ := List.mem_filterMap.mp hm
  obtain ⟨l0, h0, rfl⟩ := List.mem_map.mp hx
  cases hp : pfLookup c (l0.get "le") with
  | none => simp [hp] at hx2
  | some ub =>
    simp only [hp, Option.map_some, Option.some.injEq] at hx2
    subst hx2
    exact dropName_wf _ (del_wf l0 ["le"] (h l0 h0))

theorem engSignature_wf (m : Matching) (keepName : Bool) (ls : Labels) (h : Labels.wf ls = true) :
    Labels.wf (engSignature m keepName ls).2 = true := by
  have hlb : Labels.wf (if keepName then ls else ls.dropName) = true := wf_ite h (dropName_wf _ h)
  rw [engSignature, apply_ite Prod.snd]
  exact wf_ite (wf_ite hlb (del_wf _ _ hlb)) (wf_ite hlb (keep_wf _ _ hlb))

/-- without include labels, every output series of the static join is one input series' labels
with labels removed -/
theorem engJoin_outputs_wf (m : Matching) (hm : m.incl = []) (keepName : Bool) (high low : List Labels)
    (hh : ∀ ls ∈ high, Labels.wf ls = true) : ∀ ls ∈ (engJoin m keepName high low).outputs, Labels.wf ls = true := by
  refine engJoin_induct (fun j => ∀ ls ∈ j.outputs, Labels.wf ls = true) m keepName high low nofun
    fun j h _ _ hmem hj ls hl => ?_
  rw [hm, List.isEmpty_nil, if_pos rfl, List.append_nil] at hl
  rcases List.mem_append.mp hl with h1 | h1
  · exact hj ls h1
  · cases List.mem_singleton.mp h1
    obtain ⟨p, hp, rfl⟩ := List.mem_map.mp hmem
    exact engSignature_wf m keepName p.2 (hh p.2 (enum_snd_mem high p hp))

end PromqlVerif
