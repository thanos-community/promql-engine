/-
Theorem B up to order. Theorem B (`Proofs/TheoremB.lean`) is an equality of lists: for selectors,
range functions, pointwise functions and vector-scalar arithmetic the engine's step vector, read
through `Series()`, *is* the reference vector. Aggregations and vector matching only agree with
the reference up to the order of the output (the engine numbers groups and join outputs statically,
the reference by first appearance at the step), so they cannot sit inside that induction. Here the
induction carries "a permutation of the reference value" instead, which composes: the reference
operators are invariant under permutations of their inputs (`Proofs/PermRef.lean`).

`FragP c` closes the Theorem-B fragment under
  * aggregations (scalar-table and vectorized path; `aggP`: those with a scalar parameter) whose
    accumulator is the reference reduction and whose reduction does not depend on the order of the
    members,
  * `timestamp` of a vector selector without `@` (`tsSel`),
  * one-to-one vector matching without include labels between operands whose series have pairwise
    distinct match keys,
  * pointwise functions, `clamp_min` / `clamp_max`, unary minus, parentheses and vector-scalar
    arithmetic on top of those,
nested to any depth.
-/
import PromqlVerif.Proofs.PermRef
import PromqlVerif.Proofs.TheoremB
import PromqlVerif.Proofs.JoinTables
import PromqlVerif.Proofs.ExceptOk
namespace PromqlVerif
open Val

variable {V : Type} [Val V]

/-- pairwise distinct match keys among the series of every operator built for `e` -/
def UniqueKeys (c : Ctx V) (m : Matching) (e : Expr V) : Prop :=
  ∀ o, engOp c e = .ok o → ∀ i i', i < o.series.length → i' < o.series.length →
    sigLabels m (o.series.getD i []) = sigLabels m (o.series.getD i' []) → i = i'

inductive FragP (c : Ctx V) : Expr V → Prop
  | base (e : Expr V) : Frag false e → FragP c e
  | tsSel (s : VSel) (hat : s.atTs = none) (hts : c.q.timestampIsStepTime = false) :
      FragP c (.call "timestamp" [.vsel s])
  | paren (a : Expr V) : FragP c a → FragP c (.paren a)
  | neg (a : Expr V) : FragP c a → FragP c (.neg a)
  | simple (fn : String) (a : Expr V) (h : simpleFns.contains fn = true) : FragP c a → FragP c (.call fn [a])
  | binVS (op : String) (bl : Bool) (m : Matching) (a sc : Expr V) (hop : engineBinOps.contains op = true) :
      FragP c a → Frag true sc → FragP c (.bin op bl m a sc)
  | binSV (op : String) (bl : Bool) (m : Matching) (sc a : Expr V) (hop : engineBinOps.contains op = true) :
      Frag true sc → FragP c a → FragP c (.bin op bl m sc a)
  | clampMin (a lo : Expr V) : FragP c a → Frag true lo → FragP c (.call "clamp_min" [a, lo])
  | clampMax (a hi : Expr V) : FragP c a → Frag true hi → FragP c (.call "clamp_max" [a, hi])
  | agg (op : String) (w : Bool) (g : List String) (a : Expr V)
      (hacc : engineAccumulators.contains op = true)
      (hR : ∀ vals : List V, vals ≠ [] → engReduce op nan vals = aggReduce op nan vals)
      (hP : ∀ l l' : List V, l.Perm l' → aggReduce op nan l = aggReduce op nan l') :
      FragP c a → FragP c (.agg op w g a)
  | aggP (op : String) (w : Bool) (g : List String) (p a : Expr V)
      (hacc : engineAccumulators.contains op = true) (hnv : vectorizedAggs.contains op = false)
      (hR : ∀ (q : V) (vals : List V), vals ≠ [] → engReduce op q vals = aggReduce op q vals)
      (hP : ∀ (q : V) (l l' : List V), l.Perm l' → aggReduce op q l = aggReduce op q l') :
      Frag true p → FragP c a → FragP c (.aggP op w g p a)
  | join (op : String) (bl : Bool) (m : Matching) (l r : Expr V)
      (hc : m.card = .oneToOne) (hincl : m.incl = []) (hop : engineBinOps.contains op = true)
      (hul : UniqueKeys c m l) (hur : UniqueKeys c m r) :
      FragP c l → FragP c r → FragP c (.bin op bl m l r)

def InvP (c : Ctx V) (e : Expr V) (o : OpSem V) : Prop :=
  ∀ t, ∃ xs out, o.step t = .ok xs ∧ eval c t e = .ok (.vec out) ∧ (denote o.series xs).Perm out

theorem fragP_wt {P : Matching → Prop} (hP : ∀ m, P m) (c : Ctx V) (e : Expr V) (h : FragP c e) : WT P false e := by
  induction h with
  | base e he => exact frag_wt false e he
  | tsSel s _ _ => exact .timestamp _ (.vsel s)
  | paren a _ ih => exact .paren false a ih
  | neg a _ ih => exact .neg false a ih
  | simple fn a hfn _ ih => exact .simple fn a hfn ih
  | binVS op bl m a sc _ _ hs iha => exact .bin op bl m false true a sc (fun _ h => by cases h) iha (frag_wt true sc hs)
  | binSV op bl m sc a _ hs _ iha => exact .bin op bl m true false sc a (fun h => by cases h) (frag_wt true sc hs) iha
  | clampMin a lo _ hlo ih => exact .clampMin a lo ih (frag_wt true lo hlo)
  | clampMax a hi _ hhi ih => exact .clampMax a hi ih (frag_wt true hi hhi)
  | agg op w g a _ _ _ _ ih => exact .agg op w g a ih
  | aggP op w g p a _ _ _ _ hp _ ih => exact .aggP op w g p a (frag_wt true p hp) ih
  | join op bl m l r _ _ _ _ _ _ _ ihl ihr => exact .bin op bl m false false l r (fun _ _ => hP m) ihl ihr

theorem fragP_isScalar (c : Ctx V) (e : Expr V) (h : FragP c e) : e.isScalar = false :=
  wt_isScalar (P := fun _ => True) false e (fragP_wt (fun _ => trivial) c e h)

theorem fragP_ids (c : Ctx V) (e : Expr V) (h : FragP c e) (o : OpSem V) (ho : engOp c e = .ok o) (t : Int)
    (xs : IdVec V) (hxs : o.step t = .ok xs) : IdsOk o.series.length xs :=
  (plan_contract (P := fun _ => True) c false e (fragP_wt (fun _ => trivial) c e h) o ho).1 t xs hxs

/-- one step of an aggregation without parameter, on whichever path the engine takes (hash table, or
vectorized for `op (..)` without grouping), against the reference aggregation of the child's vector -/
theorem agg_step (child : OpSem V) (op : String) (w : Bool) (g : List String) (t : Int) (xs : IdVec V)
    (hx : child.step t = .ok xs) (hv : ∀ x ∈ xs, x.1 < child.series.length)
    (hk : (op == "topk" || op == "bottomk") = false)
    (hR : ∀ vals : List V, vals ≠ [] → engReduce op nan vals = aggReduce op nan vals) :
    ∃ ys out, (engAggregate op w g none child).step t = .ok ys ∧
      aggregate op w g nan (denote child.series xs) = .ok out ∧
      (denote (engAggregate op w g none child).series ys).Perm out := by
  cases hvec : (!w && g.isEmpty && vectorizedAggs.contains op)
  · exact agg_perm child op w g none t xs nan hx hv hvec rfl hk hR
  · simp only [Bool.and_eq_true, Bool.not_eq_true', List.isEmpty_iff] at hvec
    obtain ⟨⟨rfl, rfl⟩, hvo⟩ := hvec
    obtain ⟨ys, hys, hspec⟩ := vec_agg_step child op t xs hx hv hvo hk hR
    exact ⟨ys, _, hys, hspec, .refl _⟩

/-- an aggregation step that is right for the child's own vector `v` is right up to order for the
reference value `v'`, a permutation of `v` -/
theorem agg_step_perm {op : String} {w : Bool} {g : List String} {p : V} {v v' A ys : Vec V}
    (hk : (op == "topk" || op == "bottomk") = false)
    (hP : ∀ l l' : List V, l.Perm l' → aggReduce op p l = aggReduce op p l') (hperm : v.Perm v')
    (hspec : aggregate op w g p v = .ok A) (hys : ys.Perm A) :
    ∃ A', aggregate op w g p v' = .ok A' ∧ ys.Perm A' := by
  obtain ⟨A1, A2, hA1, hA2, hA⟩ := aggregate_perm op w g p _ _ hperm hk hP
  cases hA1.symm.trans hspec
  exact ⟨A2, hA2, hys.trans hA⟩

/-- **Theorem B up to order.** For every expression of `FragP c` plan construction succeeds and the
operator emits, at every step, a permutation of the reference value - with no error on either
side. (`∃ o, engOp c e = .ok o ∧ InvP c e o` is `VecOk List.Perm c e` unfolded: the nodes shared
with Theorem B go through its lemmas.) -/
theorem fragP_inv (c : Ctx V) (hq : c.q.noDupCheck = true) (e : Expr V) (h : FragP c e) :
    ∃ o, engOp c e = .ok o ∧ InvP c e o := by
  induction h with
  | base e he => exact (frag_ok c hq he).mono fun _ _ h => h ▸ .refl _
  | tsSel s hat hts => exact (vecOk_timestamp_vsel c hq hts s hat).mono fun _ _ h => h ▸ .refl _
  | paren a _ ih => exact VecOk.congr ih (by rw [engOp]) fun t => by rw [eval]
  | neg a _ ih => exact vecOk_neg List.Perm.filterMap ih
  | simple fn a hfn _ ih => exact vecOk_simple List.Perm.filterMap hq hfn ih
  | clampMin a lo _ hlo ih => exact vecOk_clampMin List.Perm.filterMap hq ih (frag_ok c hq hlo)
  | clampMax a hi _ hhi ih => exact vecOk_clampMax List.Perm.filterMap hq ih (frag_ok c hq hhi)
  | binVS op bl m a sc hop ha hs ih =>
    exact vecOk_bin_vs List.Perm.filterMap hq bl m hop false (fragP_isScalar c a ha) (frag_isScalar _ _ hs) ih
      (frag_ok c hq hs)
  | binSV op bl m sc a hop hs ha ih =>
    exact vecOk_bin_vs List.Perm.filterMap hq bl m hop true (frag_isScalar _ _ hs) (fragP_isScalar c a ha) ih
      (frag_ok c hq hs)
  | agg op w g a hacc hR hP hfa ih =>
    obtain ⟨child, hchild, hinv⟩ := ih
    have hk := accumulator_not_k hacc
    refine ⟨_, engOp_agg w g hacc hchild, fun t => ?_⟩
    obtain ⟨xs, out, hxs, hval, hperm⟩ := hinv t
    obtain ⟨ys, A, hys, hspec, hp⟩ := agg_step child op w g t xs hxs (fragP_ids c a hfa child hchild t xs hxs).1 hk hR
    obtain ⟨A', hA', hfin⟩ := agg_step_perm hk hP hperm hspec hp
    exact ⟨ys, A', hys, eval_agg c hq t op w g a _ A' hval hA', hfin⟩
  | aggP op w g p a hacc hnv hR hP hfp hfa ih =>
    obtain ⟨child, hchild, hinv⟩ := ih
    obtain ⟨po, hpo, hinvp⟩ := frag_ok c hq hfp
    have hk := accumulator_not_k hacc
    refine ⟨_, engOp_aggP w g hacc hpo hchild, fun t => ?_⟩
    obtain ⟨xs, out, hxs, hval, hperm⟩ := hinv t
    obtain ⟨q, hq', heq⟩ := hinvp.value t
    obtain ⟨ys, A, hys, hspec, hp⟩ := agg_perm child op w g (some po) t xs q hxs
      (fragP_ids c a hfa child hchild t xs hxs).1 (by rw [hnv, Bool.and_false]) hq' hk (hR q)
    obtain ⟨A', hA', hfin⟩ := agg_step_perm hk (hP q) hperm hspec hp
    refine ⟨ys, A', hys, ?_, hfin⟩
    rw [eval]
    simp only [hval, heq, hA', bind, Except.bind, Value.asVec, Value.asScal]
    exact dedupCheck_ok hq _
  | join op bl m l r hc hincl hop hul hur hfl hfr ihl ihr =>
    -- under unique keys the engine's join is the reference join of its own denoted inputs up to order
    -- (`engVectorBinop_unique_keys`), and the reference join does not mind permuting either operand when
    -- the signatures are distinct (`vectorBinop_perm`): chain the two
    obtain ⟨lo, hlo, hinvl⟩ := ihl
    obtain ⟨ro, hro, hinvr⟩ := ihr
    refine ⟨_, engOp_bin_vv bl m hop (fragP_isScalar c l hfl) (fragP_isScalar c r hfr) hlo hro, ?_⟩
    rw [vvOp_oneToOne bl m hc]
    intro t
    obtain ⟨xs, outl, hxs, hxe, hpl⟩ := hinvl t
    obtain ⟨ys, outr, hys, hye, hpr⟩ := hinvr t
    have hcl := fragP_ids c l hfl lo hlo t xs hxs
    have hcr := fragP_ids c r hfr ro hro t ys hys
    obtain ⟨eng, ref, heng, href, hperm⟩ := engVectorBinop_unique_keys op bl m hc hincl lo.series ro.series
      (hul lo hlo) (hur ro hro) xs ys hcl.1 hcr.1 hcl.2 hcr.2
    obtain ⟨B1, B2, hB1, hB2, hB⟩ := vectorBinop_perm op bl m hc _ _ _ _ hpl hpr
      (denote_sigs_nodup m lo.series xs hcl.1 (hul lo hlo) hcl.2)
      (denote_sigs_nodup m ro.series ys hcr.1 (hur ro hro) hcr.2)
    cases hB1.symm.trans href
    obtain ⟨zs, hzs, rfl⟩ := map_eq_ok.mp heng
    refine ⟨zs, B2, ?_, ?_, hperm.trans hB⟩
    · simp only [hxs, hys, bind, Except.bind, hzs]
    · rw [eval]
      simp only [hxe, hye, bind, Except.bind, hB2]
      exact dedupCheck_ok hq _

/-! ### where the uniqueness hypothesis comes for free -/

theorem sigLabels_eq_groupKey (m : Matching) (ls : Labels) : sigLabels m ls = groupKey (!m.on) m.labels ls := by
  unfold sigLabels groupKey
  cases m.on <;> rfl

/-- a group key is its own match key when the matching uses the grouping's labels the same way
(`by (g)` with `on (g)`, `without (g)` with `ignoring (g)`) -/
theorem sig_groupKey (m : Matching) (w : Bool) (g : List String) (hon : m.on = !w) (hl : m.labels = g) (ls : Labels) :
    sigLabels m (groupKey w g ls) = groupKey w g ls := by
  rw [sigLabels_eq_groupKey, hon, Bool.not_not, hl, groupKey_idem]

/-- **the outputs of `agg by (g) (..)` have pairwise distinct match keys under `on (g)`** (and
`without (g)` under `ignoring (g)`): the usual `agg by (g) (a) op on (g) agg by (g) (b)` meets the
uniqueness hypothesis of the matching theorem for every storage -/
theorem uniqueKeys_agg (c : Ctx V) (m : Matching) (op : String) (w : Bool) (g : List String) (a : Expr V)
    (hon : m.on = !w) (hl : m.labels = g) : UniqueKeys c m (.agg op w g a) := by
  intro o ho i i' hi hi' hk
  obtain ⟨child, _, rfl⟩ := engOp_agg_ok ho
  unfold engAggregate at hi hi' hk
  split at hi
  · -- vectorized: a single output series
    rename_i hv
    simp only [hv, if_true, List.length_cons, List.length_nil] at hi hi'
    omega
  · rename_i hv
    simp only [hv, Bool.false_eq_true, if_false] at hi hi' hk
    rw [staticGroups_outs] at hi hi' hk
    -- the outputs are the distinct group keys, and a group key is its own match key
    have hfix : ∀ j, j < (dedup (child.series.map (groupKey w g))).length →
        sigLabels m ((dedup (child.series.map (groupKey w g))).getD j [])
          = (dedup (child.series.map (groupKey w g))).getD j [] := fun j hj => by
      rw [← List.getElem_eq_getD (h := hj)]
      obtain ⟨ls, _, hls⟩ := List.mem_map.mp ((mem_dedup _ _).mp (List.getElem_mem hj))
      rw [← hls]
      exact sig_groupKey m w g hon hl ls
    rw [hfix i hi, hfix i' hi'] at hk
    exact (List.getD_inj hi hi' (nodup_dedup _)).mp hk

end PromqlVerif
