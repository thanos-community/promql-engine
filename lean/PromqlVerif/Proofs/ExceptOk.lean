/-
`do` blocks in `Except`, read in both directions. Backwards, from a success:
`simp only [bind_eq_ok, map_eq_ok, pure_eq_ok] at h` turns `h : (do let a ← x; let b ← y a; pure (f a b)) = .ok r`
into `∃ a, x = .ok a ∧ ∃ b, y a = .ok b ∧ f a b = r`. Forwards, towards a claim about the outcome
whichever it is: `Post`.
-/
namespace PromqlVerif

theorem bind_eq_ok {ε α β : Type} {x : Except ε α} {f : α → Except ε β} {b : β} :
    x >>= f = .ok b ↔ ∃ a, x = .ok a ∧ f a = .ok b := by
  cases x with
  | error e => exact ⟨nofun, nofun⟩
  | ok a => exact ⟨fun h => ⟨a, rfl, h⟩, fun ⟨_, h, h'⟩ => Except.ok.inj h ▸ h'⟩

theorem map_eq_ok {ε α β : Type} {x : Except ε α} {f : α → β} {b : β} :
    x.map f = .ok b ↔ ∃ a, x = .ok a ∧ f a = b := by
  cases x with
  | error e => exact ⟨nofun, nofun⟩
  | ok a => exact ⟨fun h => ⟨a, rfl, Except.ok.inj h⟩, fun ⟨_, h, h'⟩ => Except.ok.inj h ▸ congrArg _ h'⟩

theorem pure_eq_ok {ε α : Type} {a b : α} : (pure a : Except ε α) = .ok b ↔ a = b :=
  ⟨Except.ok.inj, congrArg _⟩

/-- a guard that raises an error did not fire -/
theorem ite_error_eq_ok {ε α : Type} {p : Prop} [Decidable p] {e : ε} {x : Except ε α} {a : α} :
    (if p then .error e else x) = .ok a ↔ ¬p ∧ x = .ok a := by
  split
  · exact ⟨nofun, fun h => absurd ‹p› h.1⟩
  · exact ⟨fun h => ⟨‹¬p›, h⟩, fun h => h.2⟩

/-- what the outcome of a computation satisfies: `E` if it is an error, `Q` if it is a result. A goal
of this form is taken apart forwards along the `do` block (`Post.bind`, `Post.ite`); at `.ok a`,
`pure a` and `.error e` it is `Q a`, `E e` by definition. -/
def Post {ε α : Type} (E : ε → Prop) (Q : α → Prop) : Except ε α → Prop
  | .error e => E e
  | .ok a => Q a

namespace Post
variable {ε α β : Type} {E : ε → Prop} {Q : α → Prop} {Q' : β → Prop}

theorem bind {x : Except ε α} {f : α → Except ε β} (hx : Post E Q x) (hf : ∀ a, Q a → Post E Q' (f a)) :
    Post E Q' (x >>= f) := by
  cases x with
  | error e => exact hx
  | ok a => exact hf a hx

theorem ite {p : Prop} [Decidable p] {x y : Except ε α} (hx : Post E Q x) (hy : Post E Q y) :
    Post E Q (if p then x else y) := by
  split
  · exact hx
  · exact hy

theorem of_ok {x : Except ε α} (h : Post E Q x) {a : α} (hx : x = .ok a) : Q a := by
  rw [hx] at h; exact h

theorem of_error {x : Except ε α} (h : Post E Q x) {e : ε} (hx : x = .error e) : E e := by
  rw [hx] at h; exact h

end Post

end PromqlVerif
