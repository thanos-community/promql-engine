/-
What the bounded heap of topk / bottomk does whatever the values are: `up`, `down`, `Push`, `Pop`
only move entries around, `down` stays inside its prefix, `Pop` removes the root, and one insertion
of `kSelect` pushes, rejects the candidate, or replaces the root.
-/
import PromqlVerif.Kernels
namespace PromqlVerif
open Val

/-! `(h.set! i x).set! j y` with `x`, `y` the entries at `j`, `i` exchanges the two. -/
section swap
variable {β : Type} {h : Array β} {i j : Nat} {x y : β}

theorem swap_get (hx : h[j]? = some x) (hy : h[i]? = some y) (k : Nat) :
    ((h.set! i x).set! j y)[k]? = if k = j then some y else if k = i then some x else h[k]? := by
  have hj : j < h.size := (Array.getElem?_eq_some_iff.mp hx).1
  have hi : i < h.size := (Array.getElem?_eq_some_iff.mp hy).1
  simp only [Array.set!_eq_setIfInBounds, Array.getElem?_setIfInBounds, Array.size_setIfInBounds, hj, hi,
    if_true, eq_comm (a := k)]

theorem swap_get_right (hx : h[j]? = some x) (hy : h[i]? = some y) : ((h.set! i x).set! j y)[j]? = some y := by
  rw [swap_get hx hy, if_pos rfl]

theorem swap_get_left (hx : h[j]? = some x) (hy : h[i]? = some y) (hij : i ≠ j) :
    ((h.set! i x).set! j y)[i]? = some x := by
  rw [swap_get hx hy, if_neg hij, if_pos rfl]

theorem swap_get_ne (hx : h[j]? = some x) (hy : h[i]? = some y) {k : Nat} (hkj : k ≠ j) (hki : k ≠ i) :
    ((h.set! i x).set! j y)[k]? = h[k]? := by
  rw [swap_get hx hy, if_neg hkj, if_neg hki]

theorem swap_get_cases (hx : h[j]? = some x) (hy : h[i]? = some y) {k : Nat} {z : β}
    (hz : ((h.set! i x).set! j y)[k]? = some z) :
    (k = j ∧ z = y) ∨ (k = i ∧ z = x) ∨ (k ≠ j ∧ k ≠ i ∧ h[k]? = some z) := by
  rw [swap_get hx hy] at hz
  split at hz
  · next hkj => exact .inl ⟨hkj, (Option.some.inj hz).symm⟩
  · next hkj =>
    split at hz
    · next hki => exact .inr (.inl ⟨hki, (Option.some.inj hz).symm⟩)
    · next hki => exact .inr (.inr ⟨hkj, hki, hz⟩)

theorem swap_toList_perm (hx : h[j]? = some x) (hy : h[i]? = some y) :
    ((h.set! i x).set! j y).toList.Perm h.toList := by
  obtain ⟨hj, rfl⟩ := Array.getElem?_eq_some_iff.mp hx
  obtain ⟨hi, rfl⟩ := Array.getElem?_eq_some_iff.mp hy
  simp only [Array.set!_eq_setIfInBounds, Array.toList_setIfInBounds]
  have := List.set_set_perm (as := h.toList) (i := i) (j := j) (by simpa using hi) (by simpa using hj)
  simpa using this

theorem swap_size : ((h.set! i x).set! j y).size = h.size := by
  simp only [Array.set!_eq_setIfInBounds, Array.size_setIfInBounds]

end swap

theorem pop_toList {β : Type} {h : Array β} {a : β} (ha : h[h.size - 1]? = some a) :
    h.pop.toList ++ [a] = h.toList := by
  obtain ⟨ys, rfl⟩ := Array.back?_eq_some_iff.mp (Array.back?_eq_getElem?.trans ha)
  rw [Array.pop_push, Array.toList_push]

variable {V : Type} [Val V] {α : Type}

theorem heapUp_perm (top : Bool) : ∀ (fuel j : Nat) (h : Array (α × V)),
    (heapUp top h fuel j).toList.Perm h.toList := by
  intro fuel j h
  fun_induction heapUp top h fuel j
  case case4 hy hx _ ih => exact ih.trans (swap_toList_perm hx hy)
  all_goals exact .refl _

theorem heapUp_size (top : Bool) (fuel j : Nat) (h : Array (α × V)) : (heapUp top h fuel j).size = h.size := by
  simpa using (heapUp_perm top fuel j h).length_eq

theorem smallerChild_cases (top : Bool) (h : Array (α × V)) (n i : Nat) :
    (smallerChild top h n i = 2 * i + 1 ∧ ∀ b a, 2 * i + 2 < n → h[2 * i + 2]? = some b → h[2 * i + 1]? = some a →
        heapLess top b.2 a.2 = false) ∨
    (smallerChild top h n i = 2 * i + 2 ∧ 2 * i + 2 < n ∧ ∃ b a, h[2 * i + 2]? = some b ∧ h[2 * i + 1]? = some a ∧
        heapLess top b.2 a.2 = true) := by
  unfold smallerChild
  split
  · rename_i b a hb ha
    split
    · rename_i hc
      rw [Bool.and_eq_true, decide_eq_true_eq] at hc
      exact .inr ⟨rfl, hc.1, b, a, hb, ha, hc.2⟩
    · rename_i hc
      refine .inl ⟨rfl, fun b' a' hlt hb' ha' => ?_⟩
      rw [show h[2 * i + 2]? = some b from hb] at hb'
      rw [ha] at ha'
      cases hb'; cases ha'
      rw [Bool.and_eq_true, decide_eq_true_eq] at hc
      exact Bool.eq_false_iff.mpr fun hl => hc ⟨hlt, hl⟩
  · rename_i hnone
    exact .inl ⟨rfl, fun b a _ hb ha => (hnone b a hb ha).elim⟩

theorem smallerChild_lt {top : Bool} {h : Array (α × V)} {n i : Nat} (hn : 2 * i + 1 < n) :
    i < smallerChild top h n i ∧ smallerChild top h n i < n ∧ (smallerChild top h n i - 1) / 2 = i := by
  rcases smallerChild_cases top h n i with ⟨e, -⟩ | ⟨e, hlt, -⟩
  · rw [e]; omega
  · rw [e]; omega

theorem heapDown_perm (top : Bool) (n : Nat) : ∀ (fuel i : Nat) (h : Array (α × V)),
    (heapDown top h n fuel i).toList.Perm h.toList := by
  intro fuel i h
  fun_induction heapDown top h n fuel i
  case case4 hy hx _ ih => exact ih.trans (swap_toList_perm hx hy)
  all_goals exact .refl _

theorem heapDown_size (top : Bool) (n fuel i : Nat) (h : Array (α × V)) :
    (heapDown top h n fuel i).size = h.size := by
  simpa using (heapDown_perm top n fuel i h).length_eq

theorem heapDown_get_ge (top : Bool) (n : Nat) : ∀ (fuel i : Nat) (h : Array (α × V)) (k : Nat), n ≤ k →
    (heapDown top h n fuel i)[k]? = h[k]? := by
  intro fuel i h k hk
  fun_induction heapDown top h n fuel i
  case case4 i _ hn j _ _ hy hx _ ih =>
    obtain ⟨hij, hjn, -⟩ : i < j ∧ j < n ∧ (j - 1) / 2 = i := smallerChild_lt (Nat.not_le.mp hn)
    rw [ih, swap_get_ne hx hy (by omega) (by omega)]
  all_goals rfl

theorem heapPush_perm (top : Bool) (h : Array (α × V)) (x : α × V) :
    (heapPush top h x).toList.Perm (h.toList ++ [x]) :=
  (heapUp_perm top _ _ _).trans (by simp)

theorem heapPush_size (top : Bool) (h : Array (α × V)) (x : α × V) : (heapPush top h x).size = h.size + 1 := by
  simpa using (heapPush_perm top h x).length_eq

theorem heapPop_eq (top : Bool) {h : Array (α × V)} {a b : α × V} (h0 : h[0]? = some a)
    (hn : h[h.size - 1]? = some b) :
    heapPop top h = (heapDown top ((h.set! 0 b).set! (h.size - 1) a) (h.size - 1) (h.size - 1) 0).pop := by
  have hne : (h.size == 0) = false := by
    rw [beq_eq_false_iff_ne]; exact Nat.ne_of_gt (Array.getElem?_eq_some_iff.mp h0).1
  rw [heapPop]
  simp only [hne, h0, hn]
  rfl

theorem heapPop_perm (top : Bool) {h : Array (α × V)} {t : α × V} (h0 : h[0]? = some t) :
    ((heapPop top h).toList ++ [t]).Perm h.toList := by
  have hs : h.size - 1 < h.size := Nat.sub_lt (Array.getElem?_eq_some_iff.mp h0).1 Nat.one_pos
  have hn : h[h.size - 1]? = some h[h.size - 1] := Array.getElem?_eq_getElem hs
  rw [heapPop_eq top h0 hn, pop_toList]
  · exact (heapDown_perm ..).trans (swap_toList_perm hn h0)
  · rw [heapDown_size, swap_size, heapDown_get_ge top _ _ _ _ _ (Nat.le_refl _)]
    exact swap_get_right hn h0

theorem heapPop_size (top : Bool) (h : Array (α × V)) (hs : 0 < h.size) : (heapPop top h).size + 1 = h.size := by
  simpa using (heapPop_perm top (Array.getElem?_eq_getElem hs)).length_eq

theorem heapPush_heapPop_one (top : Bool) (h : Array (α × V)) (x : α × V) (hs : h.size = 1) :
    heapPush top (heapPop top h) x = h.set! 0 x := by
  obtain ⟨l⟩ := h
  match l, hs with
  | [a], _ => simp [heapPush, heapPop, heapDown, heapUp]

def kStep (top : Bool) (k : Nat) (h : Array (α × V)) (x : α × V) : Array (α × V) :=
  match h[0]? with
  | none => h.push x
  | some t =>
    if h.size < k || (if top then lt t.2 x.2 else gt t.2 x.2) || isNaN t.2 then
      if h.size == k then
        if k == 1 then h.set! 0 x
        else heapPush top (heapPop top h) x
      else heapPush top h x
    else h

theorem kSelect_eq (top : Bool) (k : Nat) (items : List (α × V)) :
    kSelect top k items = (items.foldl (kStep top k) #[]).toList := rfl

/-- One insertion pushes the candidate (there is room), rejects it (the heap is full and the root
does not lose to it), or replaces the root by it; `extra` is what it drops. -/
theorem kStep_cases (top : Bool) (k : Nat) (h : Array (α × V)) (x : α × V) :
    ∃ extra, ((kStep top k h x).toList ++ extra).Perm (h.toList ++ [x]) ∧
      ((extra = [] ∧ (h.size ≠ k ∨ h.size = 0) ∧ kStep top k h x = heapPush top h x) ∨
       ∃ t, h[0]? = some t ∧ k ≤ h.size ∧
        ((extra = [x] ∧ ((if top then lt t.2 x.2 else gt t.2 x.2) || isNaN t.2) = false ∧ kStep top k h x = h) ∨
         (extra = [t] ∧ h.size = k ∧ ((if top then lt t.2 x.2 else gt t.2 x.2) || isNaN t.2) = true ∧
           kStep top k h x = heapPush top (heapPop top h) x))) := by
  have push : ((heapPush top h x).toList ++ []).Perm (h.toList ++ [x]) := by
    rw [List.append_nil]; exact heapPush_perm top h x
  generalize hr : kStep top k h x = r
  unfold kStep at hr
  split at hr
  · next h0 =>
    -- the heap is empty
    have hz : h = #[] := Array.eq_empty_of_size_eq_zero (Nat.le_zero.mp (Array.getElem?_eq_none_iff.mp h0))
    subst hz hr
    exact ⟨[], push, .inl ⟨rfl, .inr rfl, rfl⟩⟩
  · next t h0 =>
    rw [Bool.or_assoc] at hr
    generalize hadm : ((if top then lt t.2 x.2 else gt t.2 x.2) || isNaN t.2) = adm at hr
    split at hr
    · next hc =>
      split at hr
      · next hk =>
        -- full, and the root loses: replace it
        rw [beq_iff_eq] at hk
        -- for `k = 1` the engine overwrites the root, which is what `Pop` then `Push` does
        have hr' : heapPush top (heapPop top h) x = r := by
          split at hr
          · next hk1 => rw [← hr, heapPush_heapPop_one top h x (hk.trans (beq_iff_eq.mp hk1))]
          · exact hr
        subst hr'
        rw [Bool.or_eq_true, decide_eq_true_eq] at hc
        have hadm' := hadm.trans (hc.resolve_left (Nat.not_lt.mpr (Nat.le_of_eq hk.symm)))
        refine ⟨[t], ?_, .inr ⟨t, h0, Nat.le_of_eq hk.symm, .inr ⟨rfl, hk, hadm', rfl⟩⟩⟩
        -- pop h ++ [x] ++ [t] ~ pop h ++ [t] ++ [x] ~ h ++ [x]
        refine ((heapPush_perm top _ x).append_right [t]).trans ?_
        rw [List.append_assoc]
        exact (List.perm_append_comm.append_left _).trans
          (by rw [← List.append_assoc]; exact (heapPop_perm top h0).append_right [x])
      · next hk =>
        -- not full
        subst hr
        exact ⟨[], push, .inl ⟨rfl, .inl fun e => hk (beq_iff_eq.mpr e), rfl⟩⟩
    · next hc =>
      -- full, and the root does not lose
      subst hr
      rw [Bool.or_eq_true, decide_eq_true_eq, not_or, Nat.not_lt, Bool.not_eq_true] at hc
      exact ⟨[x], .refl _, .inr ⟨t, h0, hc.1, .inl ⟨rfl, hadm.trans hc.2, rfl⟩⟩⟩

theorem kStep_size (top : Bool) (k : Nat) (hk : 1 ≤ k) (h : Array (α × V)) (x : α × V) (hle : h.size ≤ k) :
    (kStep top k h x).size = min k (h.size + 1) := by
  obtain ⟨_, -, ⟨-, hs, e⟩ | ⟨t, ht, hge, ⟨-, -, e⟩ | ⟨-, hs, -, e⟩⟩⟩ := kStep_cases top k h x
  · rw [e, heapPush_size]; omega
  · rw [e]; omega
  · have := heapPop_size top h (Array.getElem?_eq_some_iff.mp ht).1
    rw [e, heapPush_size]; omega

/-- A fold whose state shows some of the items seen (`kept`), each step showing the new item and
dropping some: what is kept and what was dropped is what was seen. `I` is an invariant of the state
and of everything dropped so far. -/
theorem foldl_kept_dropped {σ β : Type} (kept : σ → List β) (f : σ → β → σ) (I : σ → List β → Prop) :
    ∀ (l : List β),
      (∀ s d, ∀ x ∈ l, I s d → ∃ e, I (f s x) (e ++ d) ∧ (kept (f s x) ++ e).Perm (kept s ++ [x])) →
      ∀ s d, I s d → ∃ d', I (l.foldl f s) d' ∧ (kept (l.foldl f s) ++ d').Perm ((kept s ++ d) ++ l)
  | [], _, s, d, hI => ⟨d, hI, by rw [List.append_nil]; exact .refl _⟩
  | x :: xs, step, s, d, hI => by
    obtain ⟨e, hI', he⟩ := step s d x List.mem_cons_self hI
    obtain ⟨d', h1, h2⟩ := foldl_kept_dropped kept f I xs
      (fun s d y hy => step s d y (List.mem_cons_of_mem _ hy)) (f s x) (e ++ d) hI'
    refine ⟨d', h1, h2.trans ?_⟩
    -- kept' ++ e ++ d ~ kept ++ [x] ++ d ~ kept ++ d ++ [x]
    rw [← List.append_assoc, List.append_cons (kept s ++ d)]
    refine ((he.append_right d).trans ?_).append_right xs
    rw [List.append_assoc, List.append_assoc]
    exact List.perm_append_comm.append_left _

/-- **topk / bottomk keep input samples**: what one group's selection returns, together with what
it dropped, is a rearrangement of the group's samples - nothing is invented, nothing is duplicated -/
theorem kSelect_perm (top : Bool) (k : Nat) (items : List (α × V)) :
    ∃ dropped, (kSelect top k items ++ dropped).Perm items := by
  obtain ⟨d, -, hd⟩ := foldl_kept_dropped Array.toList (kStep top k) (fun _ _ => True) items
    (fun h _ x _ _ => let ⟨e, he, _⟩ := kStep_cases top k h x; ⟨e, trivial, he⟩) #[] [] trivial
  exact ⟨d, hd⟩

theorem kSelect_subset (top : Bool) (k : Nat) (l : List (α × V)) : ∀ x ∈ kSelect top k l, x ∈ l := by
  intro x hx
  obtain ⟨d, hd⟩ := kSelect_perm top k l
  exact hd.subset (List.mem_append_left _ hx)

theorem min_min_add (k a b : Nat) : min k (min k a + b) = min k (a + b) := by
  rcases Nat.le_total a k with h | h
  · rw [Nat.min_eq_right h]
  · rw [Nat.min_eq_left h, Nat.min_eq_left (Nat.le_add_right k b), Nat.min_eq_left (Nat.le_trans h (Nat.le_add_right a b))]

/-- **topk / bottomk keep exactly `min k n` samples of a group of `n`** (for `k ≥ 1`; a
non-positive `k` is handled before the heap is used) -/
theorem kSelect_length (top : Bool) (k : Nat) (hk : 1 ≤ k) (items : List (α × V)) :
    (kSelect top k items).length = min k items.length := by
  have key : ∀ (items : List (α × V)) (h : Array (α × V)), h.size ≤ k →
      (items.foldl (kStep top k) h).size = min k (h.size + items.length) := by
    intro items
    induction items with
    | nil => intro h hle; exact (Nat.min_eq_right hle).symm
    | cons x xs ih =>
      intro h hle
      have hs := kStep_size top k hk h x hle
      rw [List.foldl_cons, ih _ (hs ▸ Nat.min_le_left _ _), hs, min_min_add, List.length_cons, Nat.add_assoc,
        Nat.add_comm 1]
  rw [kSelect_eq, Array.length_toList, key items #[] (Nat.zero_le k), Array.size_empty, Nat.zero_add]

end PromqlVerif
