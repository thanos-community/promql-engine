/-
What the proofs about the vector-to-vector operator share. The two nested loops of a pass
(`outerFold` over the samples, `innerFold` over the output slots of a sample) are one loop that
stops at the first error, over the list of (output slot, value) pairs the samples map to:
`outerFold_eq`. Facts about a pass are then facts about `List.foldlM` over `slotPairs`.
-/
import PromqlVerif.Eng
import PromqlVerif.Proofs.ListLemmas
namespace PromqlVerif

variable {V : Type}

/-- the (output slot, value) pairs a pass visits, in the order it visits them -/
def slotPairs (outsOf : Nat → List Nat) (xs : IdVec V) : List (Nat × V) :=
  xs.flatMap fun x => (outsOf x.1).map fun o => (o, x.2)

theorem mem_slotPairs {outsOf : Nat → List Nat} {xs : IdVec V} {p : Nat × V} (h : p ∈ slotPairs outsOf xs) :
    ∃ x ∈ xs, p.1 ∈ outsOf x.1 ∧ p.2 = x.2 := by
  obtain ⟨x, hx, hp⟩ := List.mem_flatMap.mp h
  obtain ⟨o, ho, rfl⟩ := List.mem_map.mp hp
  exact ⟨x, hx, ho, rfl⟩

theorem innerFold_eq {σ : Type} (f : σ → Nat → V → Except Err σ) (xv : V) (os : List Nat) (acc : Except Err σ) :
    innerFold f xv os acc = acc >>= os.foldlM fun st o => f st o xv := by
  induction os generalizing acc with
  | nil => cases acc <;> rfl
  | cons o os ih =>
    show innerFold f xv os _ = _
    rw [ih]
    cases acc <;> rfl

theorem outerFold_eq {σ : Type} (f : σ → Nat → V → Except Err σ) (outsOf : Nat → List Nat) (xs : IdVec V)
    (acc : Except Err σ) :
    outerFold f outsOf xs acc = acc >>= (slotPairs outsOf xs).foldlM fun st p => f st p.1 p.2 := by
  induction xs generalizing acc with
  | nil => cases acc <;> rfl
  | cons x xs ih =>
    show outerFold f outsOf xs _ = _
    rw [ih]
    cases acc with
    | error e => rfl
    | ok st =>
      show innerFold f x.2 (outsOf x.1) (.ok st) >>= _ = _
      rw [innerFold_eq]
      simp only [slotPairs, List.flatMap_cons, List.foldlM_append, List.foldlM_map]
      rfl

theorem nodup_slotPairs (outsOf : Nat → List Nat) (xs : IdVec V) (hids : (xs.map (·.1)).Pairwise (· ≠ ·))
    (hnd : ∀ x ∈ xs, (outsOf x.1).Nodup)
    (hinj : ∀ x ∈ xs, ∀ y ∈ xs, ∀ o, o ∈ outsOf x.1 → o ∈ outsOf y.1 → x.1 = y.1) :
    ((slotPairs outsOf xs).map (·.1)).Nodup := by
  have : (slotPairs outsOf xs).map (·.1) = xs.flatMap fun x => outsOf x.1 := by
    simp [slotPairs, List.map_flatMap, Function.comp_def]
  rw [this]
  exact List.pairwise_flatMap.mpr ⟨hnd, (List.Pairwise.and_mem.mp (List.pairwise_map.mp hids)).imp
    fun ⟨hx, hy, hne⟩ o ho o' ho' he => hne (hinj _ hx _ hy o ho (he ▸ ho'))⟩

theorem filterMap_slotPairs {β : Type} (outsOf : Nat → List Nat) (xs : IdVec V) (g h : Nat × V → Option β)
    (hh : ∀ x ∈ xs, ((outsOf x.1).map fun o => (o, x.2)).filterMap g = (h x).toList) :
    (slotPairs outsOf xs).filterMap g = xs.filterMap h := by
  unfold slotPairs
  induction xs with
  | nil => rfl
  | cons x xs ih =>
    rw [List.flatMap_cons, List.filterMap_append, hh x List.mem_cons_self,
      ih fun y hy => hh y (List.mem_cons_of_mem _ hy), List.filterMap_cons]
    cases h x <;> rfl

theorem slotPairs_toList (o? : Nat → Option Nat) (xs : IdVec V) :
    slotPairs (fun id => (o? id).toList) xs = xs.filterMap fun x => (o? x.1).map fun o => (o, x.2) := by
  rw [← List.filterMap_some (l := slotPairs _ xs)]
  exact filterMap_slotPairs _ xs _ _ fun x _ => by cases o? x.1 <;> rfl

theorem nodup_slotPairs_toList (o? : Nat → Option Nat) (xs : IdVec V) (hids : (xs.map (·.1)).Pairwise (· ≠ ·))
    (hinj : ∀ x ∈ xs, ∀ y ∈ xs, ∀ o, o? x.1 = some o → o? y.1 = some o → x.1 = y.1) :
    ((slotPairs (fun id => (o? id).toList) xs).map (·.1)).Nodup :=
  nodup_slotPairs _ xs hids (fun _ _ => nodup_of_length_le_one Option.length_toList_le) fun x hx y hy o ho ho' =>
    hinj x hx y hy o (Option.mem_toList.mp ho) (Option.mem_toList.mp ho')

section probe
open Val
variable [Val V]

/-- what a probe of slot `o` emits when the slot holds `lv`: the last three lines of `vbStep` -/
def emit (op : String) (bool : Bool) (o : Nat) (lv xv : V) : Option (Nat × V) :=
  let (value, keep) := elemBinop op lv xv
  if bool then some (o, ofBool keep) else if keep then some (o, value) else none

theorem vbStep_none (op : String) (bool : Bool) (card : Card) (slotVal : Nat → Option V) (st : JState V) (o : Nat)
    (xv : V) (h : slotVal o = none) : vbStep op bool card slotVal st o xv = .ok st := by
  simp only [vbStep, h]

theorem vbStep_dup (op : String) (bool : Bool) (card : Card) (slotVal : Nat → Option V) (out : IdVec V)
    (seen : List Nat) (o : Nat) (lv xv : V) (h : slotVal o = some lv)
    (hs : (card != .oneToMany && seen.contains o) = true) :
    vbStep op bool card slotVal (out, seen) o xv = .error .manyToMany := by
  simp only [vbStep, h, hs, if_true]

theorem vbStep_some (op : String) (bool : Bool) (card : Card) (slotVal : Nat → Option V) (out : IdVec V)
    (seen : List Nat) (o : Nat) (lv xv : V) (h : slotVal o = some lv)
    (hs : (card != .oneToMany && seen.contains o) = false) :
    vbStep op bool card slotVal (out, seen) o xv = .ok (out ++ (emit op bool o lv xv).toList, o :: seen) := by
  simp only [vbStep, h, hs, Bool.false_eq_true, if_false, emit]
  cases bool with
  | true => rfl
  | false => cases (elemBinop op lv xv).2 <;> simp

end probe

end PromqlVerif
