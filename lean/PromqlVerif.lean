import PromqlVerif.Basic
import PromqlVerif.Val
import PromqlVerif.Expr
import PromqlVerif.Kernels
import PromqlVerif.Sem
import PromqlVerif.Run
import PromqlVerif.Proto
import PromqlVerif.Eng
import PromqlVerif.Plan
import PromqlVerif.Remote
import PromqlVerif.Streams
import PromqlVerif.Properties.C01
import PromqlVerif.Properties.C02
import PromqlVerif.Properties.C03
import PromqlVerif.Properties.C04
import PromqlVerif.Properties.C05
import PromqlVerif.Properties.C06
import PromqlVerif.Properties.C07
import PromqlVerif.Properties.C08
import PromqlVerif.Properties.C09
import PromqlVerif.Properties.C10
import PromqlVerif.Properties.C11
import PromqlVerif.Properties.C12
import PromqlVerif.Properties.C13
import PromqlVerif.Properties.C14
import PromqlVerif.Properties.C15
import PromqlVerif.Properties.C16
import PromqlVerif.Properties.C17
import PromqlVerif.Properties.C18
import PromqlVerif.Properties.C19
import PromqlVerif.Properties.C20
